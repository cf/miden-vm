/-
  The stack part of the processor AIR (`air/src/constraints/stack/**`): 111 transition constraints
  in the order in which `stack::enforce_constraints` writes them.

  The model is generic over the coefficient type (`Add`, `Sub`, `Mul`, `NatCast` only), so the very
  same definition is *executed* at `GF` (canonical residues, for the correspondence with the Rust
  evaluator) and *reasoned about* at an arbitrary field in `Props/C04.lean`.

  Operation flags are modelled at the level the documentation specifies them: on a row whose seven
  op bits (and the two degree-reduction columns) encode opcode `k`, the flag of operation `j` is the
  indicator `k = j`.  The correspondence run therefore feeds both evaluators rows with valid op
  bits (all 88 opcodes) and random field elements everywhere else.
-/
import Miden.Model.Op
import Miden.Model.Felt
namespace Miden
namespace Air

/-- The cells of a trace row the stack constraints read. -/
structure Row (F : Type) where
  clk : F
  fmp : F
  opcode : Nat
  /-- user-operation helper registers h0..h5 (decoder hasher columns 2..7) -/
  hlp : List F
  /-- stack top s0..s15 -/
  s : List F
  b0 : F
  b1 : F
  h0 : F

variable {F : Type} [Add F] [Sub F] [Mul F] [NatCast F]

def c (n : Nat) : F := ((n : Nat) : F)

def Row.st (r : Row F) (i : Nat) : F := r.s.getD i (c 0)
def Row.hp (r : Row F) (i : Nat) : F := r.hlp.getD i (c 0)

/-- Indicator of opcode `k`. -/
def Row.is (r : Row F) (k : Nat) : F := if r.opcode = k then c 1 else c 0
/-- Indicator of an opcode range `lo ≤ opcode < hi`. -/
def Row.inR (r : Row F) (lo hi : Nat) : F := if lo ≤ r.opcode ∧ r.opcode < hi then c 1 else c 0

def isBinary (v : F) : F := v * v - v
def bnot (v : F) : F := c 1 - v

-- Decoder flags stored in the helper registers on END rows.
def Row.isLoopEnd (r : Row F) : F := r.hp 3
def Row.isCallEnd (r : Row F) : F := r.hp 4
def Row.isSyscallEnd (r : Row F) : F := r.hp 5

/-- `OpFlags::overflow`: `(b0 - 16) * h0`. -/
def Row.overflow (r : Row F) : F := (r.b0 - c 16) * r.h0

-- opcodes used below
def oEND : Nat := 112
def oREPEAT : Nat := 116

/-- `no_shift_flags[i]`. -/
def noShift (r : Row F) (i : Nat) : F :=
  let f0 : F := r.is 0 + r.is 74 + r.is 81 + r.is 86 + r.is 87 + r.is 120 + r.is 124 + r.is 108
            + r.is 112 * bnot r.isLoopEnd
  let f1 := f0 + r.inR 1 8
  let f2 := f1 + r.is 8 + r.inR 64 72
  let f3 := f2 + r.inR 10 12
  let f4 := f3 + r.inR 12 14 + r.inR 14 16 + r.inR 28 30 + r.is 25 + r.is 96 + r.is 9
  let f5 := f4 + r.inR 16 18
  let f6 := f5 + r.inR 18 20
  let f7 := f6 + r.inR 20 22
  -- PIPE, MSTREAM: no change from position 8 on, except the pointer in position 12
  let pm : F := r.is 82 + r.is 83
  let f8 := f7 + r.inR 22 24 + r.is 24 - r.is 28 + pm
  let f9 := f8 + r.inR 26 28
  let f12 := f9 - r.is 29 + r.is 28 + r.is 80 - pm
  let f13 := f12 + pm
  match i with
  | 0 => f0 | 1 => f1 | 2 => f2 | 3 => f3 | 4 => f4 | 5 => f5 | 6 => f6 | 7 => f7 | 8 => f8
  | 9 => f9 | 10 => f9 | 11 => f9 | 12 => f12 | _ => f13

/-- `left_shift_flags[i]` (defined for `1 ≤ i ≤ 15`). -/
def leftShift (r : Row F) (i : Nat) : F :=
  let movdnn : F := r.is 11 + r.is 13 + r.is 17 + r.is 19 + r.is 21 + r.is 23 + r.is 27
  let f1 : F := r.is 32 + movdnn + r.is 41 + r.is 45 + r.is 47 + r.is 46 + (r.is 84 + r.is 85)
            + r.is 116 + r.is 112 * r.isLoopEnd
  let f2 := f1 + r.inR 33 40
  let f3 := f2 + (r.is 76 + r.is 78) + r.is 42 - r.is 11
  let f4 := f3 - r.is 13
  let f5 := f4 + r.is 44 - r.is 17
  let f6 := f5 - r.is 19
  let f7 := f6 - r.is 21
  let f8 := f7 - r.is 23
  let f9 := f8 + r.is 43 - r.is 27
  match i with
  | 0 => c 0 | 1 => f1 | 2 => f2 | 3 => f3 | 4 => f4 | 5 => f5 | 6 => f6 | 7 => f7 | 8 => f8
  | _ => f9

/-- `right_shift_flags[i]`. -/
def rightShift (r : Row F) (i : Nat) : F :=
  let movupn : F := r.is 10 + r.is 12 + r.is 16 + r.is 18 + r.is 20 + r.is 22 + r.is 26
  let f0 : F := r.inR 48 64 + r.is 100 + movupn
  let f1 := f0 + r.is 72
  let f2 := f1 - r.is 10
  let f3 := f2 - r.is 12
  let f4 := f3 - r.is 16
  let f5 := f4 - r.is 18
  let f6 := f5 - r.is 20
  let f7 := f6 - r.is 22
  let f8 := f7 - r.is 26
  match i with
  | 0 => f0 | 1 => f1 | 2 => f2 | 3 => f3 | 4 => f4 | 5 => f5 | 6 => f6 | 7 => f7 | _ => f8

/-- Scalar `right_shift` flag (PUSH, U32SPLIT and the `011` block). -/
def rightShiftAny (r : Row F) : F := r.inR 48 64 + r.is 100 + r.is 72
/-- Scalar `left_shift` flag. -/
def leftShiftAny (r : Row F) : F :=
  r.inR 32 48 + (r.is 76 + r.is 78) + (r.is 84 + r.is 85) + r.is 116 + r.is 112 * r.isLoopEnd

def topBinary (r : Row F) : F := r.is 5 + r.is 15 + r.is 36 + r.is 37 + r.is 42 + r.is 43

def two16 : Nat := 65536
def two48 : Nat := 281474976710656

def vLo (r : Row F) : F := c two16 * r.hp 1 + r.hp 0
def vHi (r : Row F) : F := c two16 * r.hp 3 + r.hp 2
def v48 (r : Row F) : F := c two32 * r.hp 2 + vLo r
def v64 (r : Row F) : F := c two48 * r.hp 3 + v48 r

/-- Overflow-table bookkeeping (4 constraints). -/
def overflowCs (cur nxt : Row F) : List F :=
  let callOrSys : F := cur.is 108 + cur.is 104
  let callOrSysEnd : F := cur.is 112 * (cur.isCallEnd + cur.isSyscallEnd)
  [ (nxt.b0 - cur.b0) * (c 1 - callOrSys - callOrSysEnd) + leftShiftAny cur * cur.overflow
      - rightShiftAny cur + callOrSys * (nxt.b0 - c 16),
    (c 1 - cur.overflow) * (cur.b0 - c 16),
    (nxt.b1 - cur.clk) * rightShiftAny cur,
    (c 1 - cur.overflow) * leftShiftAny cur * nxt.st 15 ]

/-- System operations: ASSERT, FMPADD, FMPUPDATE, CLK (4 constraints). -/
def systemCs (cur nxt : Row F) : List F :=
  [ cur.is 32 * (cur.st 0 - c 1),
    cur.is 6 * (cur.st 0 + cur.fmp - nxt.st 0),
    cur.is 47 * (cur.fmp + cur.st 0 - nxt.fmp),
    cur.is 63 * (nxt.st 0 - cur.clk) ]

/-- Field operations (22 constraints). -/
def fieldCs (cur nxt : Row F) : List F :=
  let a := cur.st 0; let b := cur.st 1
  [ cur.is 34 * (a + b - nxt.st 0),
    cur.is 2 * (a + nxt.st 0 - c 0),
    cur.is 35 * (a * b - nxt.st 0),
    cur.is 3 * (a * nxt.st 0 - c 1),
    cur.is 4 * (a + c 1 - nxt.st 0),
    cur.is 5 * (a + nxt.st 0 - c 1),
    cur.is 36 * isBinary b,
    cur.is 36 * (nxt.st 0 - a * b),
    cur.is 37 * isBinary b,
    cur.is 37 * (nxt.st 0 - (a + b - a * b)),
    cur.is 33 * ((a - b) * nxt.st 0 - c 0),
    cur.is 33 * (nxt.st 0 - (c 1 - (a - b) * cur.hp 0)),
    cur.is 1 * (a * nxt.st 0 - c 0),
    cur.is 1 * (nxt.st 0 - (c 1 - a * cur.hp 0)),
    -- EXPACC
    cur.is 15 * (nxt.st 1 - cur.st 1 * cur.st 1),
    cur.is 15 * (cur.hp 0 - c 1 - (cur.st 1 - c 1) * nxt.st 0),
    cur.is 15 * (nxt.st 2 - cur.st 2 * cur.hp 0),
    cur.is 15 * (cur.st 3 - (nxt.st 3 * c 2 + nxt.st 0)),
    -- EXT2MUL: a1 = s0, a0 = s1, b1 = s2, b0 = s3
    cur.is 25 * (nxt.st 0 - cur.st 0),
    cur.is 25 * (nxt.st 1 - cur.st 1),
    cur.is 25 * (nxt.st 2 - ((cur.st 3 + cur.st 2) * (cur.st 0 + cur.st 1) - cur.st 3 * cur.st 1)),
    cur.is 25 * (nxt.st 3 - (cur.st 3 * cur.st 1 - c 2 * cur.st 2 * cur.st 0)) ]

/-- Stack manipulation (49 constraints). -/
def manipCs (cur nxt : Row F) : List F :=
  let dm (mv dp k : Nat) : F := (cur.is mv + cur.is dp) * (nxt.st 0 - cur.st k)
  let swapw : F := cur.is 24; let swapw2 : F := cur.is 28; let swapw3 : F := cur.is 29
  let swapdw : F := cur.is 30
  let w2dw := swapw2 + swapdw
  let swapwx := (swapw + swapw3) + w2dw
  let cond := cur.st 0
  let ncond := bnot (cur.st 0)
  [ cur.is 48 * (nxt.st 0 - c 0),
    cur.is 49 * (nxt.st 0 - cur.st 0),
    cur.is 50 * (nxt.st 0 - cur.st 1),
    dm 10 51 2, dm 12 52 3, dm 16 53 4, dm 18 54 5, dm 20 55 6, dm 22 56 7,
    cur.is 26 * (nxt.st 0 - cur.st 8),
    cur.is 57 * (nxt.st 0 - cur.st 9),
    cur.is 58 * (nxt.st 0 - cur.st 11),
    cur.is 59 * (nxt.st 0 - cur.st 13),
    cur.is 60 * (nxt.st 0 - cur.st 15),
    -- SWAP
    cur.is 8 * (cur.st 0 - nxt.st 1),
    cur.is 8 * (cur.st 1 - nxt.st 0) ]
  ++ (List.range 4).map (fun i =>
        swapw * nxt.st (i + 4) + w2dw * nxt.st (i + 8) + swapw3 * nxt.st (i + 12) - cur.st i * swapwx)
  ++ (List.range 4).map (fun i =>
        swapw * cur.st (i + 4) + w2dw * cur.st (i + 8) + swapw3 * cur.st (i + 12) - nxt.st i * swapwx)
  ++ (List.range 4).map (fun i => swapdw * (cur.st (i + 4) - nxt.st (i + 12)))
  ++ (List.range 4).map (fun i => swapdw * (cur.st (i + 12) - nxt.st (i + 4)))
  ++ [ cur.is 11 * (cur.st 0 - nxt.st 2), cur.is 13 * (cur.st 0 - nxt.st 3),
       cur.is 17 * (cur.st 0 - nxt.st 4), cur.is 19 * (cur.st 0 - nxt.st 5),
       cur.is 21 * (cur.st 0 - nxt.st 6), cur.is 23 * (cur.st 0 - nxt.st 7),
       cur.is 27 * (cur.st 0 - nxt.st 8),
       -- CSWAP
       cur.is 42 * (nxt.st 0 - (cur.st 1 * ncond + cur.st 2 * cond)),
       cur.is 42 * (nxt.st 1 - (cur.st 1 * cond + cur.st 2 * ncond)) ]
  ++ (List.range 4).map (fun i =>
        cur.is 43 * (nxt.st i - (cur.st (i + 1) * ncond + cur.st (i + 5) * cond)))
  ++ (List.range 4).map (fun i =>
        cur.is 43 * (nxt.st (i + 4) - (cur.st (i + 1) * cond + cur.st (i + 5) * ncond)))

/-- u32 operations (13 constraints). -/
def u32Cs (cur nxt : Row F) : List F :=
  let a := cur.st 0; let b := cur.st 1
  let rc : F := cur.inR 64 80
  let exDivAssert2 := rc - cur.is 70 - cur.is 74
  let exDivAssert2Sub := exDivAssert2 - cur.is 66
  [ (cur.is 68 + cur.is 72 + cur.is 78)
      * ((c 1 - cur.hp 4 * (c two32 - c 1 - vHi cur)) * vLo cur - c 0),
    exDivAssert2 * (nxt.st 1 - vLo cur) + cur.is 74 * (nxt.st 1 - vHi cur),
    exDivAssert2Sub * (nxt.st 0 - vHi cur) + cur.is 74 * (nxt.st 0 - vLo cur),
    cur.is 72 * (a - v64 cur),
    cur.is 64 * (a + b - v48 cur),
    cur.is 76 * (a + b + cur.st 2 - v48 cur),
    cur.is 66 * (b - (a + nxt.st 1 - c two32 * nxt.st 0)),
    cur.is 66 * isBinary (nxt.st 0),
    cur.is 68 * (a * b - v64 cur),
    cur.is 78 * (a * b + cur.st 2 - v64 cur),
    cur.is 70 * (a * nxt.st 1 + nxt.st 0 - b),
    cur.is 70 * (b - nxt.st 1 - vLo cur),
    cur.is 70 * (a - nxt.st 0 - (vHi cur + c 1)) ]

/-- SDEPTH, and the pointer increment of PIPE / MSTREAM (2 constraints). -/
def ioCs (cur nxt : Row F) : List F :=
  [ cur.is 62 * (nxt.st 0 - cur.b0),
    (cur.is 82 + cur.is 83) * (nxt.st 12 - (cur.st 12 + c 2)) ]

/-- General per-position constraints (16) and the top-binary constraint (1). -/
def generalCs (cur nxt : Row F) : List F :=
  [ nxt.st 0 * (noShift cur 0 + leftShift cur 1)
      - (noShift cur 0 * cur.st 0 + leftShift cur 1 * cur.st 1) ]
  ++ (List.range 14).map (fun j =>
        let i := j + 1
        nxt.st i * (noShift cur i + leftShift cur (i + 1) + rightShift cur (i - 1))
          - (noShift cur i * cur.st i + leftShift cur (i + 1) * cur.st (i + 1)
              + rightShift cur (i - 1) * cur.st (i - 1)))
  ++ [ nxt.st 15 * (noShift cur 15 + rightShift cur 14)
         - (noShift cur 15 * cur.st 15 + rightShift cur 14 * cur.st 14),
       (topBinary cur - cur.is 15) * isBinary (cur.st 0) + cur.is 15 * isBinary (nxt.st 0) ]

/-- All 111 stack transition constraints, in the order of `stack::enforce_constraints`. -/
def stackConstraints (cur nxt : Row F) : List F :=
  overflowCs cur nxt ++ systemCs cur nxt ++ fieldCs cur nxt ++ manipCs cur nxt ++ u32Cs cur nxt
    ++ ioCs cur nxt ++ generalCs cur nxt

end Air

/-- Canonical residues modulo `P` with ring operations: the type at which the AIR model is executed. -/
structure GF where
  v : Nat
  deriving DecidableEq, Repr, Inhabited

instance : Add GF := ⟨fun a b => ⟨fadd a.v b.v⟩⟩
instance : Sub GF := ⟨fun a b => ⟨fsub a.v b.v⟩⟩
instance : Mul GF := ⟨fun a b => ⟨fmul a.v b.v⟩⟩
instance : NatCast GF := ⟨fun n => ⟨n % P⟩⟩
instance : Inv GF := ⟨fun a => ⟨finv a.v⟩⟩
instance : One GF := ⟨⟨1⟩⟩
instance : Zero GF := ⟨⟨0⟩⟩

end Miden
