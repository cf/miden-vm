/-
  The Goldilocks modulus is prime (Lucas test with witness 7), hence `ZMod P` is a field: the
  carrier at which completeness of the stack AIR on honest rows is stated (`Props/C03Air.lean`).
-/
import Miden.Model.Felt
import Mathlib.NumberTheory.LucasPrimality
import Mathlib.Tactic.ReduceModChar
import Mathlib.Tactic.NormNum.Prime
namespace Miden

theorem P_prime : Nat.Prime P := by
  unfold P
  apply lucas_primality 18446744069414584321 (7 : ZMod 18446744069414584321)
  · reduce_mod_char
  · intro q hq hd
    have hfac : (18446744069414584321 - 1 : ℕ) = 2 ^ 32 * 3 * 5 * 17 * 257 * 65537 := by norm_num
    have h2 : Nat.Prime 2 := by norm_num
    have h3 : Nat.Prime 3 := by norm_num
    have h5 : Nat.Prime 5 := by norm_num
    have h17 : Nat.Prime 17 := by norm_num
    have h257 : Nat.Prime 257 := by norm_num
    have h65537 : Nat.Prime 65537 := by norm_num
    -- a prime that divides the product is one of its prime factors
    simp only [hfac, hq.dvd_mul, hq.prime.dvd_pow_iff_dvd (Nat.succ_ne_zero 31),
      Nat.prime_dvd_prime_iff_eq hq, h2, h3, h5, h17, h257, h65537, or_assoc] at hd
    rcases hd with rfl | rfl | rfl | rfl | rfl | rfl <;> (norm_num only; reduce_mod_char; decide)

instance : Fact (Nat.Prime P) := ⟨P_prime⟩

end Miden
