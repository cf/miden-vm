/-
  `std::mem::memcopy` over the MAST regenerated from mem.masm: symbolic execution of its three spans,
  the loop invariant `J` with its step lemma, and the whole procedure as one `Completes` statement;
  `memcopy_spec` reads it on a completed run, the termination statement is in `Props/C18.lean`.
-/
import Miden.Lemmas.Forward
import Miden.Generated.StdlibSys
namespace Miden
namespace Memcopy
open Generated Trunc

def proA : List Op := [Op.neg, Op.pad, Op.pad, Op.pad, Op.pad, Op.dup4, Op.eqz, Op.not]
def bodyB : List Op := [Op.dup5, Op.mloadw, Op.dup6, Op.mstorew, Op.swapw, Op.incr, Op.movup3, Op.movup3, Op.incr, Op.movup3, Op.incr, Op.movup3, Op.swapw, Op.dup4, Op.eqz, Op.not]
def epiC : List Op := [Op.drop, Op.drop, Op.drop, Op.drop, Op.drop, Op.drop, Op.drop]

theorem shape : mem_memcopy = .join (.join (.span proA) (.loop (.span bodyB))) (.span epiC) := rfl
theorem factsA : SpanFacts Op.isMSimple proA proA := by decide
theorem factsB : SpanFacts Op.isMSimple bodyB bodyB := by decide
theorem factsC : SpanFacts Op.isMSimple epiC epiC := by decide

/-- One iteration of the copy loop: the word at `r` is written to `w`, counter and both pointers are
    incremented, the flag `counter ≠ 0` is left on top. -/
theorem bodyB_run {ctx j3 j2 j1 j0 cnt r w y : Nat} {t : List Nat} {f : Nat} {m : Mem}
    (hr : r ≤ u32max) (hw : w ≤ u32max) (ht : 8 ≤ t.length) :
    runM ctx bodyB ⟨j3 :: j2 :: j1 :: j0 :: cnt :: r :: w :: y :: t, f, m⟩
      = .ok ⟨(if fadd cnt 1 = 0 then 0 else 1) :: (m.read ctx r).w3 :: (m.read ctx r).w2 :: (m.read ctx r).w1
              :: (m.read ctx r).w0 :: fadd cnt 1 :: fadd r 1 :: fadd w 1 :: y :: t,
            f, m.write ctx w (m.read ctx r)⟩ := by
  have p8 : padN 8 t = t := padN_of_le ht
  simp (disch := first | assumption | decide) only [sym_exec, bodyB, p8]

/-- The documented behaviour: `i` words copied one by one, lowest address first. -/
def copyFwd (ctx : Nat) : Nat → Nat → Nat → Mem → Mem
  | 0, _, _, m => m
  | i + 1, r, w, m => (copyFwd ctx i r w m).write ctx (w + i) ((copyFwd ctx i r w m).read ctx (r + i))

/-- State below the loop condition when `k` words remain to be copied. -/
def J (ctx n r0 w0 : Nat) (rest : List Nat) (f0 : Nat) (m0 : Mem) (k : Nat) (t : List Nat) (f : Nat) (m : Mem) : Prop :=
  ∃ j3 j2 j1 j0 i, t = j3 :: j2 :: j1 :: j0 :: fneg k :: (r0 + i) :: (w0 + i) :: rest ∧ i + k = n ∧
    f = f0 ∧ m = copyFwd ctx i r0 w0 m0

theorem proA_run {ctx n r w : Nat} {rest : List Nat} {f : Nat} {m : Mem} :
    runM ctx proA ⟨n :: r :: w :: rest, f, m⟩
      = .ok ⟨(if fneg n = 0 then 0 else 1) :: 0 :: 0 :: 0 :: 0 :: fneg n :: r :: w :: rest, f, m⟩ := by
  simp (disch := decide) only [sym_exec, proA]

theorem epiC_run {ctx j3 j2 j1 j0 cnt r w : Nat} {rest : List Nat} {f : Nat} {m : Mem} :
    runM ctx epiC ⟨j3 :: j2 :: j1 :: j0 :: cnt :: r :: w :: rest, f, m⟩
      = .ok ⟨padN 16 rest, f, m⟩ := by
  simp (disch := decide) only [sym_exec, epiC, Nat.max_def, Nat.reduceLeDiff, ↓reduceIte]

theorem memcopy_hstep {ctx n r0 w0 : Nat} {rest : List Nat} {f0 : Nat} {m0 : Mem} (hrest : 13 ≤ rest.length)
    (hr : r0 + n ≤ 4294967296) (hw : w0 + n ≤ 4294967296) :
    ∀ k t f m, J ctx n r0 w0 rest f0 m0 (k + 1) t f m → ∃ c t' f' m',
      runM ctx bodyB ⟨t, f, m⟩ = .ok ⟨c :: t', f', m'⟩ ∧
      J ctx n r0 w0 rest f0 m0 k t' f' m' ∧ (c = 1 ↔ k ≠ 0) ∧ (c = 0 ↔ k = 0) := by
  intro k t f m ⟨j3, j2, j1, j0, i, ht, hik, hf, hmm⟩
  obtain ⟨y, t0, rfl⟩ := List.exists_cons_of_length_pos (Nat.lt_of_lt_of_le (by decide) hrest)
  simp only [List.length_cons] at hrest
  subst ht
  have hru : r0 + i ≤ u32max := by
    simp only [u32max]
    omega
  have hwu : w0 + i ≤ u32max := by
    simp only [u32max]
    omega
  have hkP : k + 1 < P := by
    simp only [P]
    omega
  have e1 : fadd (r0 + i) 1 = r0 + (i + 1) := fadd_small _ 1 (by simp only [P]; omega)
  have e2 : fadd (w0 + i) 1 = w0 + (i + 1) := fadd_small _ 1 (by simp only [P]; omega)
  refine ⟨_, _, _, _, bodyB_run hru hwu (by omega), ?_, ?_⟩
  · exact ⟨_, _, _, _, i + 1, by rw [fneg_succ k hkP, e1, e2], by omega, hf, by rw [hmm]; rfl⟩
  · rw [fneg_succ k hkP]
    exact flag_iff (fneg_eq_zero k (by omega))

/-- `std::mem::memcopy` on the data view: result, row bound and fuel in one statement. -/
theorem memcopy_completes {C n r0 w0 : Nat} {rest : List Nat} {f : Nat} {m : Mem} {a : List Nat}
    (hrest : 13 ≤ rest.length) (hr : r0 + n ≤ 4294967296) (hw : w0 + n ≤ 4294967296) :
    Completes C mem_memcopy ⟨n :: r0 :: w0 :: rest, f, m, a⟩ ⟨padN 16 rest, f, copyFwd C n r0 w0 m, a⟩
      (19 * n + 25) (n + 4) := by
  have hz := fneg_eq_zero n (by simp only [P]; omega)
  obtain ⟨t', f', m', ⟨j3, j2, j1, j0, i, ht, hik, hf', hm'⟩, hloop⟩ :=
    Completes.loopM (C := C) factsB (J C n r0 w0 rest f m)
      (fun k t f m ⟨j3, j2, j1, j0, i, ht, _⟩ => by rw [ht]; simp only [List.length_cons]; omega)
      (memcopy_hstep hrest hr hw) a
      (k := n) (t := 0 :: 0 :: 0 :: 0 :: fneg n :: r0 :: w0 :: rest) ⟨0, 0, 0, 0, 0, rfl, by omega, rfl, rfl⟩
      (flag_iff hz)
  have hi : i = n := by omega
  subst t' f' m' i
  rw [shape]
  refine (((Completes.spanM factsA proA_run).join hloop).join (Completes.spanM factsC epiC_run)).mono ?_ ?_
  · simp only [proA, bodyB, epiC, List.length_cons, List.length_nil]
    omega
  · omega

/-- **`std::mem::memcopy`** (the MAST compiled from stdlib/asm/mem.masm): for every word count `n` and
    every pair of pointers whose windows lie in the 32-bit address space — overlapping or not — a
    completed execution consumes exactly `[n, read_ptr, write_ptr]` and leaves memory as the
    documented word-by-word forward copy; frame pointer and context are untouched. -/
theorem memcopy_spec (env : Env) (fuel : Nat) (vm vm' : Vm) (n r0 w0 : Nat) (rest : List Nat)
    (hs : vm.stack = n :: r0 :: w0 :: rest) (hrest : 13 ≤ rest.length)
    (hr : r0 + n ≤ 4294967296) (hw : w0 + n ≤ 4294967296)
    (h : Vm.exec env fuel mem_memcopy vm = .ok vm') :
    vm'.stack = padN 16 rest ∧ vm'.mem = copyFwd vm.ctx n r0 w0 vm.mem ∧ vm'.fmp = vm.fmp ∧ vm'.ctx = vm.ctx := by
  obtain ⟨hd, hc, _⟩ := (memcopy_completes hrest hr hw).sound
    (by rw [Vm.data, hs]) rfl h
  cases vm'
  cases hd
  exact ⟨rfl, rfl, rfl, hc⟩

end Memcopy
end Miden
