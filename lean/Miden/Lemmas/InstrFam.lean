/-
  Refinement of the instruction reference by the assembler's operation lists, per family: the list
  is a function of the instruction's parameter and one theorem covers every value of it; the
  theorems of `Props/C05Auto` for a family are its instances.  Argued on the operand stack alone
  (`runPure`), with only as many top elements named as the instruction touches.
-/
import Miden.Lemmas.Pure
import Miden.Lemmas.U32Arith
import Miden.Lemmas.InstrTac
namespace Miden
open Spec

/-- `ops` implements instruction `i`: from every machine state whose stack is at least 16 deep,
    running `ops` agrees with the reference wherever the reference is defined.  The `refines_*`
    theorems of `Props/C05Auto` are this statement written out. -/
def Implements (ops : List Op) (i : Instr) : Prop :=
  ∀ vm : Vm, 16 ≤ vm.stack.length → Refines (stackRun ops vm) (sem i vm.stack)

/-- Most instructions do not need the stack to hold canonical field elements. -/
theorem ignore_canon {ops : List Op} {i : Instr} (h : Implements ops i) :
    ∀ vm : Vm, 16 ≤ vm.stack.length → (∀ x ∈ vm.stack, x < P) →
      Refines (stackRun ops vm) (sem i vm.stack) :=
  fun vm hl _ => h vm hl

theorem refines_of_pure {ops : List Op} {i : Instr} (hp : ops.all Op.isStackOnly = true)
    (h : ∀ s : List Nat, 16 ≤ s.length → Refines (runPure ops s) (sem i s)) :
    Implements ops i := by
  intro vm hl
  rw [stackRun_pure ops hp vm]
  exact h vm.stack hl

theorem refines_of_pure1 {ops : List Op} {i : Instr}
    (h : ∀ a r, 15 ≤ r.length → Refines (runPure ops (a :: r)) (sem i (a :: r)))
    (hp : ops.all Op.isStackOnly = true := by rfl) : Implements ops i :=
  refines_of_pure hp fun s hl => by
    obtain ⟨a, r, rfl, hr⟩ := exists_cons_of_le hl
    exact h a r hr

theorem refines_of_pure2 {ops : List Op} {i : Instr}
    (h : ∀ b a r, 14 ≤ r.length → Refines (runPure ops (b :: a :: r)) (sem i (b :: a :: r)))
    (hp : ops.all Op.isStackOnly = true := by rfl) : Implements ops i :=
  refines_of_pure1 (hp := hp) fun b s hs => by
    obtain ⟨a, r, rfl, hr⟩ := exists_cons_of_le hs
    exact h b a r hr

theorem refines_of_pure4 {ops : List Op} {i : Instr}
    (h : ∀ d c b a r, 12 ≤ r.length →
      Refines (runPure ops (d :: c :: b :: a :: r)) (sem i (d :: c :: b :: a :: r)))
    (hp : ops.all Op.isStackOnly = true := by rfl) : Implements ops i :=
  refines_of_pure hp fun s hl => by
    obtain ⟨d, c, b, a, r, rfl, hr⟩ := exists4 (n := 12) hl
    exact h d c b a r hr

theorem refines_of_pure9 {ops : List Op} {i : Instr}
    (h : ∀ c b0 b1 b2 b3 a0 a1 a2 a3 r, 7 ≤ r.length →
      Refines (runPure ops (c :: b0 :: b1 :: b2 :: b3 :: a0 :: a1 :: a2 :: a3 :: r))
        (sem i (c :: b0 :: b1 :: b2 :: b3 :: a0 :: a1 :: a2 :: a3 :: r)))
    (hp : ops.all Op.isStackOnly = true := by rfl) : Implements ops i :=
  refines_of_pure1 (hp := hp) fun c s hs => by
    obtain ⟨b0, b1, b2, b3, s', rfl, hs'⟩ := exists4 (n := 11) hs
    obtain ⟨a0, a1, a2, a3, r, rfl, hr⟩ := exists4 (n := 7) hs'
    exact h c b0 b1 b2 b3 a0 a1 a2 a3 r hr

/-- Straight-line code is compared with the reference on a stack whose first 16 elements are
    named; for code without a guard that the reference states in the same terms (moves, `add`,
    `mul`, `neg`, `sdepth`) both sides then compute to the same list. -/
theorem refines_of_pure16 {ops : List Op} {i : Instr}
    (h : ∀ s0 s1 s2 s3 s4 s5 s6 s7 s8 s9 s10 s11 s12 s13 s14 s15 rest,
      let s := s0 :: s1 :: s2 :: s3 :: s4 :: s5 :: s6 :: s7 :: s8 :: s9 :: s10 :: s11 :: s12
        :: s13 :: s14 :: s15 :: rest
      Refines (runPure ops s) (sem i s) := by intros; rfl)
    (hp : ops.all Op.isStackOnly = true := by rfl) : Implements ops i :=
  refines_of_pure hp fun s hl => by
    obtain ⟨s0, s1, s2, s3, s4, s5, s6, s7, s8, s9, s10, s11, s12, s13, s14, s15, rest, rfl⟩ :=
      exists16 hl
    exact h ..

theorem refines_of_pure_canon {ops : List Op} {i : Instr} (hp : ops.all Op.isStackOnly = true)
    (h : ∀ s : List Nat, 16 ≤ s.length → (∀ x ∈ s, x < P) → Refines (runPure ops s) (sem i s)) :
    ∀ vm : Vm, 16 ≤ vm.stack.length → (∀ x ∈ vm.stack, x < P) →
      Refines (stackRun ops vm) (sem i vm.stack) := by
  intro vm hl hP
  rw [stackRun_pure ops hp vm]
  exact h vm.stack hl hP

theorem refines_of_pure1_canon {ops : List Op} {i : Instr}
    (h : ∀ a r, 15 ≤ r.length → a < P → Refines (runPure ops (a :: r)) (sem i (a :: r)))
    (hp : ops.all Op.isStackOnly = true := by rfl) :
    ∀ vm : Vm, 16 ≤ vm.stack.length → (∀ x ∈ vm.stack, x < P) →
      Refines (stackRun ops vm) (sem i vm.stack) :=
  refines_of_pure_canon hp fun s hl hP => by
    obtain ⟨a, r, rfl, hr⟩ := exists_cons_of_le hl
    exact h a r hr (hP a List.mem_cons_self)

theorem Refines.ok (s : List Nat) : Refines (.ok s) (.ok s) := rfl

/-- The reference is defined only under a guard. -/
theorem Refines.ite_undef {c : Prop} [Decidable c] {x : Except Err (List Nat)} {y : R}
    (h : c → Refines x y) : Refines x (if c then y else Spec.undef) := by
  split
  · next hc => exact h hc
  · trivial

theorem Refines.ite {c : Prop} [Decidable c] {x x' : Except Err (List Nat)} {y y' : R}
    (h : c → Refines x y) (h' : ¬c → Refines x' y') :
    Refines (if c then x else x') (if c then y else y') := by
  split
  · next hc => exact h hc
  · next hc => exact h' hc

theorem Refines.fail (e : Err) : Refines (.error e) (failWith e) := rfl

theorem b2n_decide (p : Prop) [Decidable p] : b2n (decide p) = if p then 1 else 0 := by
  by_cases h : p <;> simp [b2n, h]

theorem isU32s_pair {a b : Nat} : isU32s [a, b] = true ↔ a < two32 ∧ b < two32 := by
  simp [isU32s]

theorem isU32s_triple {a b c : Nat} :
    isU32s [a, b, c] = true ↔ a < two32 ∧ b < two32 ∧ c < two32 := by
  simp [isU32s]

theorem rp_not_ite (p : Prop) [Decidable p] (r : List Nat) (rest : List Op) :
    runPure (.not :: rest) ((if p then 1 else 0) :: r) = runPure rest (b2n (decide ¬p) :: r) := by
  rw [runPure_cons_ok (ps_not_ite p r), b2n_decide, ite_not]

theorem addImm_refines (b : Nat) : Implements [.push b, .add] (.addImm b) :=
  refines_of_pure1 fun a r hr => by
    rw [rp_push, rp_add, runPure_nil, padN_cons, padN_of_le hr]
    exact Refines.ok _

/-- `sub.b` adds the constant `-b`, which the assembler computes. -/
theorem subImm_refines (b c : Nat) (hc : c = fneg b) : Implements [.push c, .add] (.subImm b) :=
  refines_of_pure1 fun a r hr => by
    rw [rp_push, rp_add, runPure_nil, padN_cons, padN_of_le hr, hc, fadd_fneg]
    exact Refines.ok _

theorem mulImm_refines (b : Nat) (hb : b ≠ 0 := by decide) :
    Implements [.push b, .mul] (.mulImm b) :=
  refines_of_pure1 fun a r hr => by
    rw [rp_push, rp_mul, runPure_nil, padN_cons, padN_of_le hr]
    simp [sem, Refines, hb]

theorem eqImm_refines (b : Nat) : Implements [.push b, .eq] (.eqImm b) :=
  refines_of_pure1 fun a r hr => by
    rw [rp_push, rp_eq, runPure_nil, padN_cons, padN_of_le hr, ← b2n_decide]
    exact Refines.ok _

theorem neqImm_refines (b : Nat) : Implements [.push b, .eq, .not] (.neqImm b) :=
  refines_of_pure1 fun a r hr => by
    rw [rp_push, rp_eq, padN_cons, padN_of_le hr, rp_not_ite, runPure_nil]
    exact Refines.ok _

/-- `push_felt`: PAD for 0, PAD INCR for 1, PUSH otherwise. -/
def pushOps (b : Nat) : List Op :=
  if b = 0 then [.pad] else if b = 1 then [.pad, .incr] else [.push b]

theorem runPure_pushOps (b : Nat) (rest : List Op) (s : List Nat) :
    runPure (pushOps b ++ rest) s = runPure rest (b :: s) := by
  unfold pushOps
  split
  · subst b
    exact rp_pad s rest
  · split
    · subst b
      exact (rp_pad s _).trans (rp_incr 0 s rest)
    · exact rp_push b s rest

theorem pushOps_stackOnly (b : Nat) (rest : List Op) :
    (pushOps b ++ rest).all Op.isStackOnly = rest.all Op.isStackOnly := by
  unfold pushOps
  split
  · rfl
  · split <;> rfl

/-- `push.v₁.….vₙ`: one constant push per value. -/
theorem push_refines (vs : List Nat) : Implements (vs.flatMap pushOps) (.push vs) := by
  have run : ∀ (vs : List Nat) (s : List Nat),
      runPure (vs.flatMap pushOps) s = .ok (vs.reverse ++ s) := by
    intro vs
    induction vs with
    | nil => intro s; rfl
    | cons v vs ih =>
      intro s
      rw [List.flatMap_cons, runPure_pushOps, ih, List.reverse_cons, List.append_assoc]
      rfl
  have pure : ∀ vs : List Nat, (vs.flatMap pushOps).all Op.isStackOnly = true := by
    intro vs
    induction vs with
    | nil => rfl
    | cons v vs ih => rw [List.flatMap_cons, pushOps_stackOnly, ih]
  exact refines_of_pure (pure vs) fun s _ => by
    rw [run]
    exact Refines.ok _

/-- The reference of a u32 instruction with immediate `b` is defined when operand and immediate are
    below 2^32; there the pushed immediate followed by `ops` must leave `out a` on the rest of the
    stack. -/
theorem u32Imm_refines {b : Nat} {ops : List Op} {i : Instr} {out : Nat → List Nat}
    (hsem : ∀ a r, sem i (a :: r) = if isU32s [a, b] then .ok (out a ++ r) else undef)
    (hrun : ∀ a r, 15 ≤ r.length → a < two32 → b < two32 →
      runPure ops (b :: a :: r) = .ok (out a ++ r))
    (hp : ops.all Op.isStackOnly = true := by rfl) : Implements (pushOps b ++ ops) i :=
  refines_of_pure1 (hp := (pushOps_stackOnly b ops).trans hp) fun a r hr => by
    rw [runPure_pushOps, hsem]
    refine Refines.ite_undef fun h => ?_
    rw [hrun a r hr (isU32s_pair.mp h).1 (isU32s_pair.mp h).2]
    exact Refines.ok _

theorem u32divImm_refines (b : Nat) (hb : b ≠ 0 := by decide) :
    Implements (pushOps b ++ [.u32div, .drop]) (.u32divImm b) :=
  u32Imm_refines (out := fun a => [a / b]) (fun _ _ => if_neg hb) fun a r hr _ _ => by
    rw [rp_u32div _ _ _ hb, rp_drop, runPure_nil, padN_cons, padN_of_le hr]
    rfl

theorem u32modImm_refines (b : Nat) (hb : b ≠ 0 := by decide) :
    Implements (pushOps b ++ [.u32div, .swap, .drop]) (.u32modImm b) :=
  u32Imm_refines (out := fun a => [a % b]) (fun _ _ => if_neg hb) fun a r hr _ _ => by
    rw [rp_u32div _ _ _ hb, rp_swap, rp_drop, runPure_nil, padN_cons, padN_of_le hr]
    rfl

theorem u32divmodImm_refines (b : Nat) (hb : b ≠ 0 := by decide) :
    Implements (pushOps b ++ [.u32div]) (.u32divmodImm b) :=
  u32Imm_refines (out := fun a => [a % b, a / b]) (fun _ _ => if_neg hb) fun a r _ _ _ => by
    rw [rp_u32div _ _ _ hb, runPure_nil]
    rfl

theorem u32wrappingAddImm_refines (b : Nat) :
    Implements (pushOps b ++ [.u32add, .drop]) (.u32wrappingAddImm b) :=
  u32Imm_refines (out := fun a => [(a + b) % two32]) (fun _ _ => rfl) fun a r hr ha hb => by
    rw [rp_u32add, rp_drop, runPure_nil, padN_cons, padN_of_le hr, u32_add_small ha hb]
    rfl

theorem u32overflowingAddImm_refines (b : Nat) :
    Implements (pushOps b ++ [.u32add]) (.u32overflowingAddImm b) :=
  u32Imm_refines (out := fun a => [b2n (decide (a + b ≥ two32)), (a + b) % two32])
    (fun _ _ => rfl) fun a r _ ha hb => by
    rw [rp_u32add, runPure_nil, u32_add_small ha hb, splitHi, splitLo, u32_add_carry ha hb,
      b2n_decide]
    rfl

theorem u32overflowingSubImm_refines (b : Nat) :
    Implements (pushOps b ++ [.u32sub]) (.u32overflowingSubImm b) :=
  u32Imm_refines (out := fun a => [b2n (decide (a < b)), (a + two32 - b) % two32])
    (fun _ _ => rfl) fun a r _ ha hb => by
    rw [rp_u32sub, runPure_nil, u32_sub_borrow ha hb, u32_sub_lo ha hb, b2n_decide]
    rfl

theorem u32wrappingSubImm_refines (b : Nat) :
    Implements (pushOps b ++ [.u32sub, .drop]) (.u32wrappingSubImm b) :=
  u32Imm_refines (out := fun a => [(a + two32 - b) % two32]) (fun _ _ => rfl)
    fun a r hr ha hb => by
    rw [rp_u32sub, rp_drop, runPure_nil, padN_cons, padN_of_le hr, u32_sub_lo ha hb]
    rfl

theorem u32wrappingMulImm_refines (b : Nat) :
    Implements (pushOps b ++ [.u32mul, .drop]) (.u32wrappingMulImm b) :=
  u32Imm_refines (out := fun a => [a * b % two32]) (fun _ _ => rfl) fun a r hr ha hb => by
    rw [rp_u32mul, rp_drop, runPure_nil, padN_cons, padN_of_le hr, u32_mul_small ha hb]
    rfl

theorem u32overflowingMulImm_refines (b : Nat) :
    Implements (pushOps b ++ [.u32mul]) (.u32overflowingMulImm b) :=
  u32Imm_refines (out := fun a => [a * b / two32, a * b % two32]) (fun _ _ => rfl)
    fun a r _ ha hb => by
    rw [rp_u32mul, runPure_nil, u32_mul_small ha hb]
    rfl

theorem u32shrImm_refines (k : Nat) (hk : k ≤ 31 := by decide) :
    Implements [.push (2 ^ k), .u32div, .drop] (.u32shrImm k) :=
  refines_of_pure1 fun a r hr => by
    rw [rp_push, rp_u32div _ _ _ (Nat.ne_of_gt (Nat.pow_pos (by decide))), rp_drop, runPure_nil,
      padN_cons, padN_of_le hr]
    show Refines _ (if k > 31 then _ else if a < two32 then .ok (a / 2 ^ k :: r) else undef)
    rw [if_neg (Nat.not_lt.mpr hk)]
    exact Refines.ite_undef fun _ => Refines.ok _

theorem u32shlImm_refines (k : Nat) (hk : k ≤ 31 := by decide) :
    Implements [.push (2 ^ k), .u32mul, .drop] (.u32shlImm k) :=
  refines_of_pure1 fun a r hr => by
    rw [rp_push, rp_u32mul, rp_drop, runPure_nil, padN_cons, padN_of_le hr]
    show Refines _ (if k > 31 then _ else if a < two32 then .ok (a * 2 ^ k % two32 :: r) else undef)
    rw [if_neg (Nat.not_lt.mpr hk)]
    refine Refines.ite_undef fun ha => ?_
    rw [u32_mul_small ha (two_pow_lt_two32 hk)]
    exact Refines.ok _

/-- Rotation: the two halves of `a · 2^k` added up.  `u32rotr.k` is compiled and specified as
    `u32rotl.(32-k)`: its forms are instances at `32 - k`. -/
theorem u32rotlImm_refines (k : Nat) (hk : k ≤ 31 := by decide) :
    Implements [.push (2 ^ k), .u32mul, .add] (.u32rotlImm k) :=
  refines_of_pure1 fun a r hr => by
    rw [rp_push, rp_u32mul, rp_add, runPure_nil, padN_cons, padN_of_le hr]
    show Refines _ (if k > 31 then _ else if a < two32 then
      .ok ((a * 2 ^ k % two32 + a / 2 ^ (32 - k)) :: r) else undef)
    rw [if_neg (Nat.not_lt.mpr hk)]
    refine Refines.ite_undef fun ha => ?_
    rw [rot_halves ha (Nat.le_succ_of_le hk)]
    exact Refines.ok _

/-- A range check in front of code whose reference fails, in whatever way, outside the range. -/
theorem Refines.u32guard {a : Nat} {l : List Nat} {e : Err} {x : Except Err (List Nat)} {y : R}
    (h : Refines x (if isU32s l then y else Spec.failAny)) :
    Refines (if a ≥ two32 then .error e else x) (if isU32s (a :: l) then y else Spec.failAny) := by
  by_cases ha : a ≥ two32
  · rw [if_pos ha, if_neg (by simp [isU32s, Nat.not_lt.mpr ha])]
    exact ⟨_, rfl⟩
  · rw [if_neg ha]
    simpa [isU32s, Nat.not_le.mp ha] using h

theorem rp_assert_ite (c : Nat) (p : Prop) [Decidable p] (r : List Nat) (rest : List Op) :
    runPure (.assert c :: rest) ((if p then 1 else 0) :: r)
      = if p then runPure rest (padN 16 r) else .error (.assertFailed c) := by
  rw [rp_assert_total]
  by_cases h : p
  · rw [if_pos h, if_pos h, if_pos rfl]
  · rw [if_neg h, if_neg h, if_neg (by decide)]

theorem rp_drop_padN (x : Nat) (r : List Nat) (rest : List Op) :
    runPure (.drop :: rest) (padN 16 (x :: r)) = runPure rest (padN 16 r) := by
  rw [padN_cons, rp_drop, padN_padN]
  rfl

/-- The reference pads below the result of a binary operation; the run has the padding below the
    top element, where later operations leave it. -/
theorem Refines.ok_pad_cons (x : Nat) (r : List Nat) :
    Refines (.ok (x :: padN 15 r)) (.ok (pad16 (x :: r))) := by
  rw [pad16_eq, padN_cons]
  exact Refines.ok _

theorem assert_refines (c : Nat) : Implements [.assert c] (.assert c) :=
  refines_of_pure1 fun a r _ => by
    rw [rp_assert_total]
    exact Refines.ite (fun _ => Refines.ok _) (fun _ => Refines.fail _)

theorem assertz_refines (c : Nat) : Implements [.eqz, .assert c] (.assertz c) :=
  refines_of_pure1 fun a r _ => by
    rw [rp_eqz, rp_assert_total]
    show Refines _ (if a = 0 then _ else _)
    by_cases h : a = 0
    · rw [if_pos h, if_pos rfl, if_pos h]
      exact Refines.ok _
    · rw [if_neg h, if_neg (by decide), if_neg h]
      exact Refines.fail _

theorem u32assert2_refines (c : Nat) : Implements [.u32assert2 c] (.u32assert2 c) :=
  refines_of_pure2 fun b a r _ => by
    rw [rp_u32assert2_total]
    exact Refines.ite (fun _ => Refines.fail _) fun _ =>
      Refines.ite (fun _ => Refines.fail _) (fun _ => Refines.ok _)

theorem assertEq_refines (c : Nat) : Implements [.eq, .assert c] (.assertEq c) :=
  refines_of_pure2 fun b a r _ => by
    rw [rp_eq, padN_cons, rp_assert_ite, runPure_nil, padN_padN]
    exact Refines.ite (fun _ => Refines.ok _) (fun _ => Refines.fail _)

/-- `u32assert` checks its operand together with a zero. -/
theorem u32assert_refines (c : Nat) : Implements [.pad, .u32assert2 c, .drop] (.u32assert c) :=
  refines_of_pure1 fun a r hr => by
    rw [rp_pad, rp_u32assert2_total, if_neg (by decide)]
    show Refines _ (if a < two32 then _ else _)
    by_cases h : a < two32
    · rw [if_neg (Nat.not_le.mpr h), if_pos h, rp_drop, runPure_nil, padN_cons, padN_of_le hr]
      exact Refines.ok _
    · rw [if_pos (Nat.not_lt.mp h), if_neg h]
      exact rfl

/-- Forms the assembler compiles to a single NOOP (`add.0`, `u32shl.0` …). -/
theorem noop_refines {i : Instr} (h : ∀ a r, Refines (.ok (a :: r)) (sem i (a :: r))) :
    Implements [.noop] i :=
  refines_of_pure1 fun a r _ => h a r

theorem noop_refines_canon {i : Instr}
    (h : ∀ a r, a < P → Refines (.ok (a :: r)) (sem i (a :: r))) :
    ∀ vm : Vm, 16 ≤ vm.stack.length → (∀ x ∈ vm.stack, x < P) →
      Refines (stackRun [.noop] vm) (sem i vm.stack) :=
  refines_of_pure1_canon fun a r _ ha => h a r ha

/-- A rotation by 0, in either direction, leaves a 32-bit value as it is; the reference computes
    it as `a · 2^0 mod 2^32 + a / 2^32`. -/
theorem rot0_refines (a : Nat) (r : List Nat) :
    Refines (.ok (a :: r)) (if 0 > 31 then failAny else if a < two32 then
      .ok ((a * 2 ^ 0 % two32 + a / 2 ^ (32 - 0)) :: r) else undef) := by
  rw [if_neg (by decide)]
  refine Refines.ite_undef fun ha => ?_
  rw [Nat.pow_zero, Nat.mul_one, Nat.mod_eq_of_lt ha, Nat.div_eq_of_lt (show a < 2 ^ (32 - 0) from ha)]
  exact Refines.ok _

theorem stackRun_single (op : Op) (vm : Vm) :
    stackRun [op] vm = (vm.stepCore op).map (·.stack) := by
  simp only [stackRun, runOps, Vm.step]
  cases vm.stepCore op <;> rfl

theorem dup_native_refines {n : Nat} {op : Op}
    (hop : ∀ vm : Vm, vm.stepCore op = vm.dup n := by intro; rfl)
    (hn : n ≤ 15 := by decide) : Implements [op] (.dup n) := by
  intro vm hl
  have hv : vm.stack[n]? = some vm.stack[n] := List.getElem?_eq_getElem (by omega)
  rw [stackRun_single, hop]
  simp only [Vm.dup, sem, hv, hn, if_true]
  rfl

theorem movup_native_refines {n : Nat} {op : Op}
    (hop : ∀ vm : Vm, vm.stepCore op = vm.movup n := by intro; rfl)
    (h2 : 2 ≤ n := by decide) (hn : n ≤ 15 := by decide) : Implements [op] (.movup n) := by
  intro vm hl
  have hv : vm.stack[n]? = some vm.stack[n] := List.getElem?_eq_getElem (by omega)
  have hc : ¬ (n < 2 ∨ n > 15) := by omega
  rw [stackRun_single, hop]
  simp only [Vm.movup, sem, hv, hc, if_false]
  rfl

theorem movdn_native_refines {n : Nat} {op : Op}
    (hop : ∀ vm : Vm, vm.stepCore op = vm.movdn n := by intro; rfl)
    (h2 : 2 ≤ n := by decide) (hn : n ≤ 15 := by decide) : Implements [op] (.movdn n) := by
  intro vm hl
  obtain ⟨x, r, hs, hr⟩ := exists_cons_of_le hl
  have hc : ¬ (n < 2 ∨ n > 15) := by omega
  have hr' : n ≤ r.length := by omega
  rw [stackRun_single, hop]
  simp only [Vm.movdn, sem, hs, hc, hr', if_true, if_false]
  rfl

/-! ### `dup.n` for even `n ≥ 8`: the VM has no such operation -/

theorem pureStep_of_dup {n : Nat} {op : Op} (hop : ∀ vm : Vm, vm.stepCore op = vm.dup n)
    {s : List Nat} {v : Nat} (hv : s[n]? = some v) : pureStep op s = .ok (v :: s) := by
  unfold pureStep
  rw [hop]
  show (match (match s[n]? with | some v => _ | none => _ : Except Err Vm) with
    | .ok v => _ | .error e => _) = _
  rw [hv]
  rfl

/-- The assembler duplicates the element one further down from above a zero and adds the two:
    the sum is the element only if that is canonical. -/
theorem dupAdd_refines {n : Nat} {op : Op}
    (hop : ∀ vm : Vm, vm.stepCore op = vm.dup (n + 1) := by intro; rfl)
    (hn : n ≤ 14 := by decide) (hp : [.pad, op, .add].all Op.isStackOnly = true := by rfl) :
    ∀ vm : Vm, 16 ≤ vm.stack.length → (∀ x ∈ vm.stack, x < P) →
      Refines (stackRun [.pad, op, .add] vm) (sem (.dup n) vm.stack) :=
  refines_of_pure_canon hp fun s hl hP => by
    have hv : s[n]? = some s[n] := List.getElem?_eq_getElem (by omega)
    rw [rp_pad, runPure_cons_ok (pureStep_of_dup hop (s := 0 :: s) hv), rp_add, runPure_nil,
      padN_cons, padN_of_le (Nat.le_of_succ_le hl), zero_fadd (hP _ (List.getElem_mem _))]
    show Refines _ (match s[n]? with
      | some v => if n ≤ 15 then .ok (v :: s) else failAny
      | none => undef)
    rw [hv]
    show Refines _ (if n ≤ 15 then .ok (s[n] :: s) else failAny)
    rw [if_pos (Nat.le_succ_of_le hn)]
    exact Refines.ok _

end Miden
