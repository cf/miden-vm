/-
  std::math::u256 (eight 32-bit limbs, most significant first on the stack): the value `u256of` as a
  list of limbs (`Lemmas/Limbs.lean`), and what one limb step of `sub_unsafe` leaves, in the form of
  the borrow chain `subBorrow`.  `Props/C16.lean` reads add_unsafe / sub_unsafe as `addCarry` / `subBorrow` on eight
  limbs.  and / xor act limb-wise.
-/
import Miden.Lemmas.U64Pure
import Miden.Lemmas.Limbs
namespace Miden.U256

/-- Value of eight 32-bit limbs, most significant first (the stack order of std::math::u256). -/
@[reducible] def u256of (l0 l1 l2 l3 l4 l5 l6 l7 : Nat) : Nat :=
  l0 * 26959946667150639794667015087019630673637144422540572481103610249216 + l1 * 6277101735386680763835789423207666416102355444464034512896 + l2 * 1461501637330902918203684832716283019655932542976 + l3 * 340282366920938463463374607431768211456 + l4 * 79228162514264337593543950336 + l5 * 18446744073709551616 + l6 * 4294967296 + l7 * 1

theorem u256of_eq_limbs (x0 x1 x2 x3 x4 x5 x6 x7 : Nat) :
    u256of x0 x1 x2 x3 x4 x5 x6 x7 = limbs [x7, x6, x5, x4, x3, x2, x1, x0] := by
  simp only [u256of, limbs, two32]
  omega

/-! A limb step of `sub_unsafe` adds the incoming borrow to the subtrahend limb first; when that
    overflows (`y = 2^32 - 1`, `b = 1`) the overflow is the borrow out.  Both results are those of the
    plain step `x + 2^32 - y - b` of `subBorrow`. -/

theorem sub_limb_lo {x y b : Nat} (hx : x < two32) (hy : y < two32) (hb : b ≤ 1) :
    (x + two64 - splitLo (fadd b y)) % two64 % two32 = (x + two32 - y - b) % two32 := by
  rw [u32_add_small (Nat.lt_of_le_of_lt hb (by decide)) hy, u32_sub_lo hx (splitLo_lt _)]
  simp only [splitLo, two32] at *
  omega

/-- The most significant limb adds the borrow in the other order. -/
theorem sub_limb_lo' {x y b : Nat} (hx : x < two32) (hy : y < two32) (hb : b ≤ 1) :
    (x + two64 - splitLo (fadd y b)) % two64 % two32 = (x + two32 - y - b) % two32 := by
  rw [show fadd y b = fadd b y from congrArg (· % P) (Nat.add_comm y b), sub_limb_lo hx hy hb]

theorem sub_limb_borrow {x y b : Nat} (hx : x < two32) (hy : y < two32) (hb : b ≤ 1) :
    fadd ((x + two64 - splitLo (fadd b y)) % two64 / 2 ^ 63) (splitHi (fadd b y))
      = 1 - (x + two32 - y - b) / two32 := by
  have hb' : b < two32 := Nat.lt_of_le_of_lt hb (by decide)
  rw [u32_add_small hb' hy, u32_sub_borrow_div hx (splitLo_lt _),
    u32_add_small (Nat.lt_of_le_of_lt (Nat.sub_le 1 _) (by decide))
      (show splitHi (b + y) < two32 from add_div_lt hb' hy)]
  simp only [splitLo, splitHi, two32] at *
  omega

/-- `u256::and`: limb-wise, for all limbs < 2^32. -/
theorem u256_and_pure (y0 y1 y2 y3 y4 y5 y6 y7 x0 x1 x2 x3 x4 x5 x6 x7 : Nat) (r0 r1 r2 : Nat) (r : List Nat) (hr : 13 ≤ r.length)
    (hx0 : x0 < two32) (hy0 : y0 < two32) (hx1 : x1 < two32) (hy1 : y1 < two32) (hx2 : x2 < two32) (hy2 : y2 < two32) (hx3 : x3 < two32) (hy3 : y3 < two32) (hx4 : x4 < two32) (hy4 : y4 < two32) (hx5 : x5 < two32) (hy5 : y5 < two32) (hx6 : x6 < two32) (hy6 : y6 < two32) (hx7 : x7 < two32) (hy7 : y7 < two32) :
    runPure Generated.u256_and (y0 :: y1 :: y2 :: y3 :: y4 :: y5 :: y6 :: y7 :: x0 :: x1 :: x2 :: x3 :: x4 :: x5 :: x6 :: x7 :: r0 :: r1 :: r2 :: r)
      = .ok (Nat.land y0 x0 :: Nat.land y1 x1 :: Nat.land y2 x2 :: Nat.land y3 x3 :: Nat.land x4 y4 :: Nat.land x5 y5 :: Nat.land x6 y6 :: Nat.land x7 y7 :: r0 :: r1 :: r2 :: r) := by
  simp (disch := binb) only [Generated.u256_and, pure_exec, *]

/-- `u256::xor`: limb-wise, for all limbs < 2^32. -/
theorem u256_xor_pure (y0 y1 y2 y3 y4 y5 y6 y7 x0 x1 x2 x3 x4 x5 x6 x7 : Nat) (r0 r1 r2 : Nat) (r : List Nat) (hr : 13 ≤ r.length)
    (hx0 : x0 < two32) (hy0 : y0 < two32) (hx1 : x1 < two32) (hy1 : y1 < two32) (hx2 : x2 < two32) (hy2 : y2 < two32) (hx3 : x3 < two32) (hy3 : y3 < two32) (hx4 : x4 < two32) (hy4 : y4 < two32) (hx5 : x5 < two32) (hy5 : y5 < two32) (hx6 : x6 < two32) (hy6 : y6 < two32) (hx7 : x7 < two32) (hy7 : y7 < two32) :
    runPure Generated.u256_xor (y0 :: y1 :: y2 :: y3 :: y4 :: y5 :: y6 :: y7 :: x0 :: x1 :: x2 :: x3 :: x4 :: x5 :: x6 :: x7 :: r0 :: r1 :: r2 :: r)
      = .ok (Nat.xor y0 x0 :: Nat.xor y1 x1 :: Nat.xor y2 x2 :: Nat.xor y3 x3 :: Nat.xor x4 y4 :: Nat.xor x5 y5 :: Nat.xor x6 y6 :: Nat.xor x7 y7 :: r0 :: r1 :: r2 :: r) := by
  simp (disch := binb) only [Generated.u256_xor, pure_exec, *]

end Miden.U256
