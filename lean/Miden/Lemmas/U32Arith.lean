/-
  Operands below 2^32 keep sums and products below `p`, so the reductions modulo 2^64 and `p`
  inside U32ADD, U32ADD3, U32SUB, U32MUL, U32MADD and ADD vanish; carry, borrow and halves are the
  integer ones, and are again below 2^32 (`u32b`).
  Core Lean only.
-/
import Miden.Model.Vm
import Miden.Lemmas.SimpSets
namespace Miden

theorem u32_add_small {a b : Nat} (ha : a < two32) (hb : b < two32) : fadd a b = a + b :=
  Nat.mod_eq_of_lt (by simp only [two32, P] at *; omega)

theorem mod_P_of_lt {t : Nat} (h : t < P) : t % two64 % P = t := by
  simp only [two64, P] at *
  omega

theorem u32_add3_small {a b c : Nat} (ha : a < two32) (hb : b < two32) (hc : c < two32) :
    (a + b + c) % two64 % P = a + b + c :=
  mod_P_of_lt (by simp only [two32, P] at *; omega)

theorem mul_le_u32 {a b : Nat} (ha : a < two32) (hb : b < two32) : a * b ≤ 4294967295 * 4294967295 :=
  Nat.mul_le_mul (Nat.le_of_lt_succ ha) (Nat.le_of_lt_succ hb)

theorem u32_madd_lt {a b c : Nat} (ha : a < two32) (hb : b < two32) (hc : c < two32) : a * b + c < P := by
  have h := mul_le_u32 ha hb
  simp only [two32, P] at *
  omega

theorem u32_madd_small {a b c : Nat} (ha : a < two32) (hb : b < two32) (hc : c < two32) :
    (a * b + c) % two64 % P = a * b + c :=
  mod_P_of_lt (u32_madd_lt ha hb hc)

theorem u32_mul_small {a b : Nat} (ha : a < two32) (hb : b < two32) :
    a * b % two64 % P = a * b :=
  u32_madd_small (c := 0) ha hb (by decide)

theorem u32_fmul_small {a b : Nat} (ha : a < two32) (hb : b < two32) : fmul a b = a * b := by
  have h := mul_le_u32 ha hb
  exact Nat.mod_eq_of_lt (by simp only [P]; omega)

theorem u32_add_carry {a b : Nat} (ha : a < two32) (hb : b < two32) :
    (a + b) / two32 = if a + b ≥ two32 then 1 else 0 := by
  by_cases h : a + b ≥ two32
  · rw [if_pos h]
    simp only [two32] at *
    omega
  · rw [if_neg h]
    simp only [two32] at *
    omega

theorem u32_sub_borrow {a b : Nat} (ha : a < two32) (hb : b < two32) :
    (a + two64 - b) % two64 / 2 ^ 63 = if a < b then 1 else 0 := by
  by_cases h : a < b
  · rw [if_pos h]
    simp only [two64, two32] at *
    omega
  · rw [if_neg h]
    simp only [two64, two32] at *
    omega

theorem u32_sub_lo {a b : Nat} (ha : a < two32) (hb : b < two32) :
    (a + two64 - b) % two64 % two32 = (a + two32 - b) % two32 := by
  simp only [two64, two32] at *
  omega

attribute [u32_small] splitHi splitLo u32_add_small u32_add3_small u32_mul_small u32_madd_small

/-- `u32sub` without case distinction, for `omega`. -/
theorem u32_sub_borrow_div {a b : Nat} (ha : a < two32) (hb : b < two32) :
    (a + two64 - b) % two64 / 2 ^ 63 = 1 - (a + two32 - b) / two32 := by
  rw [u32_sub_borrow ha hb]
  simp only [two32] at *
  split <;> omega

theorem u32_sub_lo_eq_zero {a b : Nat} (ha : a < two32) (hb : b < two32) :
    (a + two64 - b) % two64 % two32 = 0 ↔ a = b := by
  rw [u32_sub_lo ha hb]
  simp only [two32] at *
  omega

theorem mod_two32_lt (x : Nat) : x % two32 < two32 := Nat.mod_lt _ (by decide)

theorem splitLo_lt (x : Nat) : splitLo x < two32 := mod_two32_lt x

theorem madd_div_lt {a b c : Nat} (ha : a < two32) (hb : b < two32) (hc : c < two32) :
    (a * b + c) / two32 < two32 := by
  have h := mul_le_u32 ha hb
  simp only [two32] at *
  omega

theorem mul_div_lt {a b : Nat} (ha : a < two32) (hb : b < two32) : a * b / two32 < two32 :=
  madd_div_lt (c := 0) ha hb (by decide)

theorem add3_div_lt {a b c : Nat} (ha : a < two32) (hb : b < two32) (hc : c < two32) :
    (a + b + c) / two32 < two32 := by
  simp only [two32] at *
  omega

theorem add_div_lt {a b : Nat} (ha : a < two32) (hb : b < two32) : (a + b) / two32 < two32 :=
  add3_div_lt (c := 0) ha hb (by decide)

/-- Discharger for the `< 2^32` side conditions of the rules above and of the executor: a hypothesis,
    a remainder, or the high half of a product or sum of such values (a sum of three before a sum
    of two, whose form it also has); `omega` for the linear conditions that come along (depth of
    the stack). Files with further 32-bit operations add their bounds (`Lemmas/HashTac.lean`). -/
syntax "u32b" : tactic
macro_rules
  | `(tactic| u32b) => `(tactic| first
    | assumption
    | exact mod_two32_lt _
    | exact splitLo_lt _
    | (apply madd_div_lt <;> u32b)
    | (apply mul_div_lt <;> u32b)
    | (apply add3_div_lt <;> u32b)
    | (apply add_div_lt <;> u32b)
    | omega)

theorem two_pow_lt_two32 {k : Nat} (hk : k ≤ 31) : 2 ^ k < two32 :=
  Nat.pow_lt_pow_right (by decide) (Nat.lt_succ_of_le hk)

theorem two_pow_mul_two_pow_sub {k : Nat} (hk : k ≤ 32) : 2 ^ k * 2 ^ (32 - k) = 4294967296 := by
  rw [← Nat.pow_add, Nat.add_sub_cancel' hk]

theorem mul_two_pow_div_two32 (a : Nat) {k : Nat} (hk : k ≤ 32) :
    a * 2 ^ k / two32 = a / 2 ^ (32 - k) := by
  rw [two32, ← two_pow_mul_two_pow_sub hk, Nat.mul_comm (2 ^ k),
    Nat.mul_div_mul_right _ _ (Nat.pow_pos (by decide))]

/-- A rotation as the VM computes it: multiply by `2^j` and add the two 32-bit halves of the product. -/
theorem rot_halves {x j : Nat} (hx : x < two32) (hj : j ≤ 32) :
    fadd (splitLo (x * 2 ^ j % two64 % P)) (splitHi (x * 2 ^ j % two64 % P))
      = x * 2 ^ j % two32 + x / 2 ^ (32 - j) := by
  have hlt : x * 2 ^ j < P :=
    Nat.lt_of_le_of_lt (Nat.mul_le_mul (Nat.le_of_lt_succ hx) (Nat.pow_le_pow_right (by decide) hj))
      (by decide)
  rw [mod_P_of_lt hlt, splitLo, splitHi, mul_two_pow_div_two32 x hj,
    u32_add_small (mod_two32_lt _) (Nat.lt_of_le_of_lt (Nat.div_le_self _ _) hx)]

end Miden
