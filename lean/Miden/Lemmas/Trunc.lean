/-
  `std::sys::truncate_stack` over the MAST regenerated from sys.masm: symbolic execution of prologue,
  loop body and epilogue on (stack, fmp, memory), the loop invariant (`JT`: only the depth matters), and
  the whole procedure as one `Completes` statement; `truncate_stack_spec` reads it on a completed run,
  the termination statement is in `Props/C18.lean`.
-/
import Miden.Lemmas.Forward
import Miden.Generated.StdlibSys
namespace Miden
namespace Trunc
open Generated

-- The pushed constants 18446744069414584317 … 584320 are `P - 4 … P - 1`: offsets -4 … -1 from the frame
-- pointer (`fadd_back`).
def proA : List Op := [Op.push 4, Op.fmpupdate, Op.push 18446744069414584318, Op.fmpadd, Op.mstorew, Op.drop, Op.drop, Op.drop, Op.drop, Op.push 18446744069414584319, Op.fmpadd, Op.mstorew, Op.drop, Op.drop, Op.drop, Op.drop, Op.push 18446744069414584320, Op.fmpadd, Op.mstorew, Op.drop, Op.drop, Op.drop, Op.drop, Op.pad, Op.fmpadd, Op.mstorew, Op.drop, Op.drop, Op.drop, Op.drop, Op.sdepth, Op.push 16, Op.eq, Op.not]
def bodyB : List Op := [Op.drop, Op.drop, Op.drop, Op.drop, Op.sdepth, Op.push 16, Op.eq, Op.not]
def epiC : List Op := [Op.pad, Op.fmpadd, Op.mloadw, Op.swapw3, Op.push 18446744069414584320, Op.fmpadd, Op.mloadw, Op.swapw2, Op.push 18446744069414584319, Op.fmpadd, Op.mloadw, Op.swapw, Op.push 18446744069414584318, Op.fmpadd, Op.mloadw, Op.push 18446744069414584317, Op.fmpupdate]

theorem shape : sys_truncate_stack = .join (.join (.span proA) (.loop (.span bodyB))) (.span epiC) := rfl

/-- The rows of the prologue have a batching NOOP after `sdepth` (its 32nd operation), and the epilogue
    two at its end (`factsC`): what `spanRows` pads groups with. -/
def rowsA : List Op := proA.take 31 ++ Op.noop :: proA.drop 31

theorem factsA : SpanFacts Op.isMSimple proA rowsA := by decide
theorem factsB : SpanFacts Op.isMSimple bodyB bodyB := by decide
theorem factsC : SpanFacts Op.isMSimple epiC (epiC ++ [Op.noop, Op.noop]) := by decide

/-- Memory after the prologue stored the top sixteen elements `s` in the four locals (a word holds its
    four elements in reverse). -/
def words (m : Mem) (ctx f : Nat) (s : List Nat) : Mem :=
  (((m.write ctx (f + 1) ⟨s.getD 3 0, s.getD 2 0, s.getD 1 0, s.getD 0 0⟩).write ctx (f + 2)
    ⟨s.getD 7 0, s.getD 6 0, s.getD 5 0, s.getD 4 0⟩).write ctx (f + 3)
    ⟨s.getD 11 0, s.getD 10 0, s.getD 9 0, s.getD 8 0⟩).write ctx (f + 4)
    ⟨s.getD 15 0, s.getD 14 0, s.getD 13 0, s.getD 12 0⟩

theorem words_read (m : Mem) (C f : Nat) (s : List Nat) :
    (words m C f s).read C (f + 1) = ⟨s.getD 3 0, s.getD 2 0, s.getD 1 0, s.getD 0 0⟩ ∧
      (words m C f s).read C (f + 2) = ⟨s.getD 7 0, s.getD 6 0, s.getD 5 0, s.getD 4 0⟩ ∧
      (words m C f s).read C (f + 3) = ⟨s.getD 11 0, s.getD 10 0, s.getD 9 0, s.getD 8 0⟩ ∧
      (words m C f s).read C (f + 4) = ⟨s.getD 15 0, s.getD 14 0, s.getD 13 0, s.getD 12 0⟩ := by
  refine ⟨?_, ?_, ?_, ?_⟩ <;> simp (disch := omega) only [words, Mem.read_write_same, Mem.read_write_ne]

theorem eq16 {s : List Nat} (h : s.length = 16) :
    ∃ a0 a1 a2 a3 a4 a5 a6 a7 a8 a9 a10 a11 a12 a13 a14 a15,
      s = [a0, a1, a2, a3, a4, a5, a6, a7, a8, a9, a10, a11, a12, a13, a14, a15] := by
  obtain ⟨a0, a1, a2, a3, a4, a5, a6, a7, a8, a9, a10, a11, a12, a13, a14, a15, r, rfl⟩ := exists16 (Nat.le_of_eq h.symm)
  obtain rfl : r = [] := List.eq_nil_of_length_eq_zero (by simpa using h)
  exact ⟨_, _, _, _, _, _, _, _, _, _, _, _, _, _, _, _, rfl⟩

theorem proA_run {ctx : Nat} {s r : List Nat} {f : Nat} {m : Mem} (hs : s.length = 16)
    (hf1 : FMP_MIN ≤ f) (hf2 : f + 4 ≤ FMP_MAX) :
    ∃ c, runM ctx rowsA ⟨s ++ r, f, m⟩ = .ok ⟨c :: padN 16 r, f + 4, words m ctx f s⟩
      ∧ (c = 1 ↔ (padN 16 r).length ≠ 16) ∧ (c = 0 ↔ (padN 16 r).length = 16) := by
  obtain ⟨a0, a1, a2, a3, a4, a5, a6, a7, a8, a9, a10, a11, a12, a13, a14, a15, rfl⟩ := eq16 hs
  have hlt : f + 4 < 4294967296 := by
    simp only [FMP_MAX] at hf2
    omega
  have e0 : fadd f 4 = f + 4 := fadd_small f 4 (by simp only [P]; omega)
  have e4 : fadd (f + 4) 0 = f + 4 := fadd_small (f + 4) 0 (by simp only [P]; omega)
  have b1 : FMP_MIN ≤ fadd f 4 := by
    rw [e0]
    simp only [FMP_MIN] at *
    omega
  have b2 : fadd f 4 ≤ FMP_MAX := by
    rw [e0]
    exact hf2
  refine ⟨if (padN 16 r).length = 16 then 0 else 1, ?_, flag_iff Iff.rfl⟩
  -- the bounds on the four addresses follow from `hlt` by arithmetic; four drops nest four paddings,
  -- which `padN_padN` turns into a `max` of numerals (`Nat.max_def …`)
  simp (disch := first | assumption | decide | (simp only [u32max]; omega)) only [sym_exec, rowsA, proA,
    List.take_succ_cons, List.take_zero, List.drop_succ_cons, List.drop_zero, List.cons_append, List.nil_append, e0, e4,
    fadd_back hlt (j := 1) rfl, fadd_back hlt (j := 2) rfl, fadd_back hlt (j := 3) rfl, Nat.max_def, Nat.reduceLeDiff,
    ↓reduceIte]
  rfl

theorem epiC_run {ctx : Nat} {x s : List Nat} {f : Nat} {m : Mem} (hx : x.length = 16) (hs : s.length = 16)
    (hf1 : FMP_MIN ≤ f) (hf2 : f + 4 ≤ FMP_MAX) :
    runM ctx (epiC ++ [Op.noop, Op.noop]) ⟨x, f + 4, words m ctx f s⟩ = .ok ⟨s, f, words m ctx f s⟩ := by
  obtain ⟨x0, x1, x2, x3, x4, x5, x6, x7, x8, x9, x10, x11, x12, x13, x14, x15, rfl⟩ := eq16 hx
  obtain ⟨r1, r2, r3, r4⟩ := words_read m ctx f s
  obtain ⟨a0, a1, a2, a3, a4, a5, a6, a7, a8, a9, a10, a11, a12, a13, a14, a15, rfl⟩ := eq16 hs
  have hlt : f + 4 < 4294967296 := by
    simp only [FMP_MAX] at hf2
    omega
  have e4 : fadd (f + 4) 0 = f + 4 := fadd_small (f + 4) 0 (by simp only [P]; omega)
  have e5 : fadd (f + 4) 18446744069414584317 = f := fadd_back hlt (j := 0) rfl
  have b1 : FMP_MIN ≤ fadd (f + 4) 18446744069414584317 := by
    rw [e5]
    exact hf1
  have b2 : fadd (f + 4) 18446744069414584317 ≤ FMP_MAX := by
    rw [e5]
    omega
  simp (disch := first | assumption | decide | (simp only [u32max]; omega)) only [sym_exec, epiC, List.cons_append,
    List.nil_append, e4, e5, fadd_back hlt (j := 1) rfl, fadd_back hlt (j := 2) rfl, fadd_back hlt (j := 3) rfl,
    r1, r2, r3, r4]
  rfl

theorem bodyB_run (ctx x0 x1 x2 x3 : Nat) (t : List Nat) (f : Nat) (m : Mem) :
    ∃ c, runM ctx bodyB ⟨x0 :: x1 :: x2 :: x3 :: t, f, m⟩ = .ok ⟨c :: padN 16 t, f, m⟩
      ∧ (c = 1 ↔ (padN 16 t).length ≠ 16) ∧ (c = 0 ↔ (padN 16 t).length = 16) := by
  refine ⟨if (padN 16 t).length = 16 then 0 else 1, ?_, flag_iff Iff.rfl⟩
  simp (disch := decide) only [sym_exec, bodyB, Nat.max_def, Nat.reduceLeDiff, ↓reduceIte]

/-- State below the loop condition when `k` more iterations are due: each removes four elements, down
    to sixteen.  Only the depth matters: the epilogue overwrites all sixteen elements that are left. -/
def JT (F : Nat) (M : Mem) (k : Nat) (t : List Nat) (f : Nat) (m : Mem) : Prop :=
  16 ≤ t.length ∧ 13 + 4 * k ≤ t.length ∧ t.length ≤ 16 + 4 * k ∧ f = F ∧ m = M

theorem trunc_hstep {ctx F : Nat} {M : Mem} :
    ∀ k t f m, JT F M (k + 1) t f m → ∃ c t' f' m',
      runM ctx bodyB ⟨t, f, m⟩ = .ok ⟨c :: t', f', m'⟩ ∧
      JT F M k t' f' m' ∧ (c = 1 ↔ k ≠ 0) ∧ (c = 0 ↔ k = 0) := by
  intro k t f m ⟨h16, hlo, hhi, hf, hm⟩
  obtain ⟨x0, x1, x2, x3, t'', rfl, -⟩ := exists4 (n := 12) h16
  obtain ⟨c, hrun, hc1, hc0⟩ := bodyB_run ctx x0 x1 x2 x3 t'' f m
  have hp := padN_len 16 t''
  simp only [List.length_cons] at hlo hhi
  refine ⟨c, padN 16 t'', f, m, hrun, ⟨by omega, by omega, by omega, hf, hm⟩, ?_, ?_⟩
  · rw [hc1]
    omega
  · rw [hc0]
    omega

theorem loop_completes (C : Nat) (c : Nat) (t : List Nat) (F : Nat) (M : Mem) (a : List Nat)
    (h16 : 16 ≤ t.length) (hc : (c = 1 ↔ t.length ≠ 16) ∧ (c = 0 ↔ t.length = 16)) :
    ∃ s', s'.length = 16 ∧ Completes C (.loop (.span bodyB)) ⟨c :: t, F, M, a⟩ ⟨s', F, M, a⟩
      ((t.length - 13) / 4 * (bodyB.length + 3) + 2) ((t.length - 13) / 4 + 2) := by
  obtain ⟨t', f', m', ⟨h16', hlo, hhi, rfl, rfl⟩, hloop⟩ :=
    Completes.loopM (C := C) factsB (JT F M) (fun k t' f m h => h.1) trunc_hstep a
      (k := (t.length - 13) / 4) (t := t) ⟨h16, by omega, by omega, rfl, rfl⟩ (by rw [hc.1, hc.2]; omega)
  exact ⟨t', by omega, hloop⟩

/-- `std::sys::truncate_stack`, total: of `s ++ r` the sixteen elements `s` are left. -/
theorem truncate_stack_completes {C : Nat} {s : List Nat} (r : List Nat) {f : Nat} {m : Mem} {a : List Nat}
    (hs : s.length = 16)
    (hf1 : FMP_MIN ≤ f) (hf2 : f + 4 ≤ FMP_MAX) :
    Completes C sys_truncate_stack ⟨s ++ r, f, m, a⟩ ⟨s, f, words m C f s, a⟩
      (11 * ((r.length + 3) / 4) + 80) ((r.length + 3) / 4 + 4) := by
  obtain ⟨c, hrun, hc⟩ := proA_run (ctx := C) (r := r) (m := m) hs hf1 hf2
  have hp := padN_len 16 r
  obtain ⟨s', hl, hloop⟩ := loop_completes C c (padN 16 r) (f + 4) _ a (by omega) hc
  rw [shape]
  refine (((Completes.spanM factsA hrun).join hloop).join (Completes.spanM factsC (epiC_run hl hs hf1 hf2))).mono ?_ ?_
  · simp only [rowsA, proA, bodyB, epiC, List.length_cons, List.length_nil, List.length_append, List.length_take,
      List.length_drop, hp]
    omega
  · rw [hp]
    omega

/-- **`std::sys::truncate_stack`** (the MAST compiled from stdlib/asm/sys.masm): from any state whose
    stack is at least 16 deep — any depth, any contents — and whose frame pointer leaves room for
    the four locals, a completed execution leaves exactly the original top 16 elements, the frame
    pointer and the context as they were. -/
theorem truncate_stack_spec (env : Env) (fuel : Nat) (vm vm' : Vm) (hl : 16 ≤ vm.stack.length)
    (hf1 : FMP_MIN ≤ vm.fmp) (hf2 : vm.fmp + 4 ≤ FMP_MAX)
    (h : Vm.exec env fuel sys_truncate_stack vm = .ok vm') :
    vm'.stack = vm.stack.take 16 ∧ vm'.fmp = vm.fmp ∧ vm'.ctx = vm.ctx := by
  obtain ⟨hd, hc, _⟩ := (truncate_stack_completes (vm.stack.drop 16) (List.length_take_of_le hl) hf1 hf2).sound
    (by rw [Vm.data, List.take_append_drop]) rfl h
  exact ⟨congrArg ASt.stack hd, congrArg ASt.fmp hd, hc⟩

end Trunc
end Miden
