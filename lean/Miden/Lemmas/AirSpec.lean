/-
  The stack AIR read operation by operation, at an arbitrary field: on a row carrying the opcode of
  `op`, `Air.stackConstraints` is equivalent to the overflow-table constraints, a few equations in
  solved form for the operation's own demands (`Lemmas/AirGroups.lean`) and one equation per next-row
  cell that the operation moves or keeps (`Lemmas/AirMoves.lean`): `holds_iff`.  Soundness
  (`Props/C04*.lean`) reads the equivalence from left to right, completeness on honest rows
  (`Props/C03Air*.lean`) from right to left.
-/
import Miden.Lemmas.AirMoves
import Miden.Lemmas.AirGroups
namespace Miden.Air
variable {F : Type} [Field F] {cur nxt : Row F} {op : Op}

/-- What the gated groups and the top-binary constraint together demand of a row of `op`. -/
structure Demands (cur nxt : Row F) (op : Op) : Prop where
  system : systemD cur nxt op := by trivial
  field : fieldD cur nxt op := by trivial
  manip : manipD cur nxt op := by trivial
  u32 : u32D cur nxt op := by trivial
  io : ioD cur nxt op := by trivial
  top : topD cur nxt op := by trivial

theorem demands_iff : Demands cur nxt op ↔ systemD cur nxt op ∧ fieldD cur nxt op ∧ manipD cur nxt op ∧
    u32D cur nxt op ∧ ioD cur nxt op ∧ topD cur nxt op :=
  ⟨fun ⟨a, b, c, d, e, f⟩ => ⟨a, b, c, d, e, f⟩, fun ⟨a, b, c, d, e, f⟩ => ⟨a, b, c, d, e, f⟩⟩

/-- The stack AIR on a row of `op`, all of it: the overflow-table constraints, the operation's own
    demands, and every next-row cell that has a move equal to the current cell the move names. -/
theorem holds_iff (op : Op) (hop : cur.opcode = op.code) (hc : op.isControl = false) :
    Holds cur nxt ↔ (∀ x ∈ overflowCs cur nxt, x = 0) ∧ Demands cur nxt op ∧
      ∀ i < 16, ∀ m, moveAt op i = some m → nxt.st i = cur.st (m.src i) := by
  rw [holds_iff_groups, system_iff op hop, field_iff op hop, manip_iff op hop, u32_iff op hop,
    io_iff op hop, general_iff op hop hc, topBinary_iff op hop, demands_iff]
  tauto

theorem Holds.demands (h : Holds cur nxt) (op : Op) (hop : cur.opcode = op.code)
    (hc : op.isControl = false := by rfl) : Demands cur nxt op :=
  ((holds_iff op hop hc).mp h).2.1

end Miden.Air
