/-
  For `Props/C16.lean`: flags as propositions, limb pairs (`u64of`) compared limb by limb, the limbs of
  a value from one equation (`u64of_split`, `limbs_of_u64of`), and the executor call `u64_exec`.
  `u64_fin`, `u64_fin1` (with `u64_leaves`, `subb`, `sub_borrow`, `sub_lo`) close what the executor
  leaves wholesale, by case splits and `omega`; no proof uses them.
-/
import Miden.Lemmas.U64Tac
import Miden.Lemmas.Pure
import Miden.Lemmas.U32Arith
namespace Miden

/-- Discharger of `u64_exec`: a hypothesis, or a linear fact about limbs below 2^32 and flags
    `if c then 1 else 0` (the conditions of `not`, `and`, `or`, `cswap`, `assert`, the depth of the stack). -/
syntax "binb" : tactic
macro_rules
  | `(tactic| binb) => `(tactic| first
    | assumption
    | (simp only [two64, two32]; omega)
    | (split_ifs <;> omega)
    | (simp only [two64, two32]; split_ifs <;> omega)
    | omega)

macro "u64_exec" ops:ident : tactic => `(tactic| (
  simp (disch := binb) only [$ops:ident, pure_exec, *]))

theorem sub_borrow (a b : Nat) (ha : a < two32) (hb : b < two32) :
    (a + two64 - b) % two64 / 2 ^ 63 = if a < b then 1 else 0 :=
  u32_sub_borrow ha hb
theorem sub_lo (a b : Nat) (ha : a < two32) (hb : b < two32) :
    (a + two64 - b) % two64 % two32 = if a < b then a + two32 - b else a - b := by
  simp only [two64, two32] at *
  split <;> omega
theorem ite_lt_two32 (c : Prop) [Decidable c] (x y : Nat) (hx : x < two32) (hy : y < two32) :
    (if c then x else y) < two32 := by split <;> assumption

syntax "subb" : tactic
macro_rules
  | `(tactic| subb) => `(tactic| first
    | assumption
    | (simp only [two32]; omega)
    | (split_ifs <;> simp only [two32] at * <;> omega))

macro "u64_leaves" : tactic => `(tactic| (
  simp only [Except.ok.injEq, List.cons.injEq, and_true, two64, two32] at *
  (repeat' (apply And.intro)) <;> (try split_ifs) <;> (try simp_all) <;> (try omega)
  all_goals (first | omega | rw [if_neg (by omega)] | rw [if_pos (by omega)])))

macro "u64_fin" ah:ident al:ident bh:ident bl:ident : tactic => `(tactic| (
  simp (disch := subb) only [sub_borrow, sub_lo]
  have hA : u64of $ah $al = $ah * 4294967296 + $al := rfl
  have hB : u64of $bh $bl = $bh * 4294967296 + $bl := rfl
  generalize u64of $ah $al = A at *
  generalize u64of $bh $bl = B at *
  u64_leaves))

macro "u64_fin1" ah:ident al:ident : tactic => `(tactic| (
  have hA : u64of $ah $al = $ah * 4294967296 + $al := rfl
  generalize u64of $ah $al = A at *
  simp only [Except.ok.injEq, List.cons.injEq, and_true, two64, two32] at *
  split_ifs <;> omega))

theorem bit_eq_one (c : Prop) [Decidable c] : (if c then 1 else 0) = 1 ↔ c := by
  split <;> simp [*]

theorem one_sub_bit (c : Prop) [Decidable c] : 1 - (if c then 1 else 0) = if ¬c then 1 else 0 := by
  split <;> simp [*]

theorem u64of_lt_iff {ah al bh bl : Nat} (ha : al < two32) (hb : bl < two32) :
    u64of ah al < u64of bh bl ↔ ah < bh ∨ (ah = bh ∧ al < bl) := by
  simp only [u64of, two32] at *
  omega

theorem u64of_eq_iff {ah al bh bl : Nat} (ha : al < two32) (hb : bl < two32) :
    u64of ah al = u64of bh bl ↔ ah = bh ∧ al = bl := by
  simp only [u64of, two32] at *
  omega

theorem u64of_split {hi lo v : Nat} (hlo : lo < two32) (h : u64of hi lo = v) :
    hi = v / two32 ∧ lo = v % two32 := by
  simp only [u64of, two32] at *
  omega

/-- Two cells that make up `v mod 2^64` as a limb pair are the limbs of `v`: what a 64-bit
    procedure leaves is compared with its value by one equation, not limb by limb. -/
theorem limbs_of_u64of {hi lo v : Nat} (r : List Nat) (hlo : lo < two32) (h : u64of hi lo = v % two64) :
    hi :: lo :: r = v % two64 / two32 :: v % two32 :: r := by
  obtain ⟨e1, e0⟩ := u64of_split hlo h
  rw [e1, e0, Nat.mod_mod_of_dvd v (by decide : two32 ∣ two64)]

/-- The same for four cells: the lower three below 2^32, they are the base-2^32 digits of what they
    make up (`overflowing_mul`; the numeral is 2^96). -/
theorem limbs4_of_u64of {d3 d2 d1 d0 v : Nat} (r : List Nat) (h2 : d2 < two32) (h1 : d1 < two32)
    (h0 : d0 < two32) (h : u64of (u64of (u64of d3 d2) d1) d0 = v) :
    d3 :: d2 :: d1 :: d0 :: r
      = v / 79228162514264337593543950336 :: v / two64 % two32 :: v / two32 % two32 :: v % two32 :: r := by
  obtain ⟨e, e0⟩ := u64of_split h0 h
  obtain ⟨e', e1⟩ := u64of_split h1 e
  obtain ⟨e3, e2⟩ := u64of_split h2 e'
  rw [e3, e2, e1, e0]
  simp only [Nat.div_div_eq_div_mul]
  rfl

end Miden
