/-
  Soundness of std::math::u64::div / mod / divmod for EVERY advice tape: `advpop` is replaced by a push
  of the next tape element (`stackRun_subst`); in a hypothesis `… = .ok out` the symbolic executor turns
  every assertion into its condition (`assert_bind_ok`, `u32assert2_bind_ok`), and the conditions, the
  same for the three procedures, force quotient and remainder (`div_checks_sound`).
-/
import Miden.Lemmas.U64Mul
namespace Miden.U64Div
-- `ah < 2^32`, `al < 2^32` in the three `…_sound` statements are not used: a completed run forces them (`c6`, `c7`).
set_option linter.unusedVariables false

/-- Replace every `advpop` by a push of the next advice element (`none` when the tape runs out). -/
def substAdv : List Op → List Nat → Option (List Op)
  | [], _ => some []
  | .advpop :: rest, x :: xs => (substAdv rest xs).map (Op.push x :: ·)
  | .advpop :: _, [] => none
  | op :: rest, xs => (substAdv rest xs).map (op :: ·)

/-- All operations other than `advpop` depend on the operand stack alone. -/
def advOnly (ops : List Op) : Bool := ops.all (fun o => o == .advpop || o.isStackOnly)

theorem advOnly_cons (op : Op) (rest : List Op) :
    advOnly (op :: rest) = true ↔ (op = .advpop ∨ op.isStackOnly = true) ∧ advOnly rest = true := by
  simp [advOnly]

theorem substAdv_cons_ne (op : Op) (rest : List Op) (xs : List Nat) (h : op ≠ .advpop) :
    substAdv (op :: rest) xs = (substAdv rest xs).map (op :: ·) := by
  cases op <;> first | rfl | exact absurd rfl h

theorem stackRun_subst (ops : List Op) (h : advOnly ops = true) : ∀ (vm : Vm) (ops' : List Op),
    substAdv ops vm.adv = some ops' → stackRun ops vm = runPure ops' vm.stack := by
  induction ops with
  | nil => intro vm ops' hs; simp only [substAdv, Option.some.injEq] at hs; subst hs; rfl
  | cons op rest ih =>
    intro vm ops' hs
    obtain ⟨h1, hrest⟩ := (advOnly_cons op rest).mp h
    by_cases ha : op = .advpop
    · subst ha
      cases hadv : vm.adv with
      | nil => rw [hadv] at hs; simp [substAdv] at hs
      | cons x xs =>
        rw [hadv] at hs
        simp only [substAdv, Option.map_eq_some_iff] at hs
        obtain ⟨l, hl, rfl⟩ := hs
        have := ih hrest { vm with adv := xs, stack := x :: vm.stack } l (by simpa using hl)
        simp only [stackRun, runOps, Vm.step_advpop vm x xs hadv] at this ⊢
        rw [this]
        simp [runPure, ps_push]
    · have hp : op.isStackOnly = true := h1.resolve_left ha
      have hs' : ∃ l, substAdv rest vm.adv = some l ∧ ops' = op :: l := by
        rw [substAdv_cons_ne op rest vm.adv ha, Option.map_eq_some_iff] at hs
        obtain ⟨a, h1, h2⟩ := hs
        exact ⟨a, h1, h2.symm⟩
      obtain ⟨l, hl, rfl⟩ := hs'
      simp only [stackRun, runOps, runPure, Vm.step_eq_stepCore, stepCore_pure vm op hp]
      cases hps : pureStep op vm.stack with
      | error e => rfl
      | ok s =>
        have := ih hrest { vm with stack := s } l hl
        simp only [stackRun] at this
        exact this

/-- A run that succeeds found enough advice for all of its `advpop`s. -/
theorem subst_exists (ops : List Op) (h : advOnly ops = true) : ∀ (vm : Vm) (out : List Nat),
    stackRun ops vm = .ok out → ∃ ops', substAdv ops vm.adv = some ops' := by
  induction ops with
  | nil => intro vm out _; exact ⟨[], rfl⟩
  | cons op rest ih =>
    intro vm out hrun
    obtain ⟨h1, hrest⟩ := (advOnly_cons op rest).mp h
    by_cases ha : op = .advpop
    · subst ha
      cases hadv : vm.adv with
      | nil =>
        simp only [stackRun, runOps, Vm.step_advpop_nil vm hadv] at hrun
        cases hrun
      | cons x xs =>
        simp only [stackRun, runOps, Vm.step_advpop vm x xs hadv] at hrun
        obtain ⟨l, hl⟩ := ih hrest { vm with adv := xs, stack := x :: vm.stack } out hrun
        exact ⟨Op.push x :: l, by simp only [substAdv]; simp only [] at hl; rw [hl]; rfl⟩
    · have hp : op.isStackOnly = true := h1.resolve_left ha
      simp only [stackRun, runOps, Vm.step_eq_stepCore, stepCore_pure vm op hp] at hrun
      cases hps : pureStep op vm.stack with
      | error e => rw [hps] at hrun; cases hrun
      | ok s =>
        rw [hps] at hrun
        obtain ⟨l, hl⟩ := ih hrest { vm with stack := s } out hrun
        exact ⟨op :: l, by rw [substAdv_cons_ne op rest vm.adv ha]; simp only [] at hl; rw [hl]; rfl⟩

theorem assert_bind_ok {c x : Nat} {s out : List Nat} {f : List Nat → Except Err (List Nat)} :
    (pureStep (.assert c) (x :: s)).bind f = .ok out ↔ x = 1 ∧ f (padN 16 s) = .ok out := by
  rw [ps_assert_total]
  split <;> simp [Except.bind, *]

theorem u32assert2_bind_ok {c x0 x1 : Nat} {s out : List Nat} {f : List Nat → Except Err (List Nat)} :
    (pureStep (.u32assert2 c) (x0 :: x1 :: s)).bind f = .ok out ↔
      x0 < two32 ∧ x1 < two32 ∧ f (x0 :: x1 :: s) = .ok out := by
  rw [ps_u32assert2_total]
  split_ifs with h0 h1 <;> simp [Except.bind, Nat.not_le.mp, Nat.not_lt.mpr, *]

theorem assert_inv {c x : Nat} {s out : List Nat} {rest : List Op}
    (h : runPure (.assert c :: rest) (x :: s) = .ok out) : x = 1 ∧ runPure rest (padN 16 s) = .ok out := by
  rwa [runPure_cons, assert_bind_ok] at h

theorem u32assert2_inv {c x0 x1 : Nat} {s out : List Nat} {rest : List Op}
    (h : runPure (.u32assert2 c :: rest) (x0 :: x1 :: s) = .ok out) :
    x0 < two32 ∧ x1 < two32 ∧ runPure rest (x0 :: x1 :: s) = .ok out := by
  rwa [runPure_cons, u32assert2_bind_ok] at h

/-- Quotient and remainder are determined by `r + q·b = a`, `r < b`. -/
theorem divmod_unique (a b q r : Nat) (h1 : r + q * b = a) (h2 : r < b) : b ≠ 0 ∧ q = a / b ∧ r = a % b := by
  have hb : 0 < b := by omega
  have := (Nat.div_mod_unique hb (a := a) (c := r) (d := q)).mpr ⟨by rw [Nat.mul_comm]; exact h1, h2⟩
  exact ⟨by omega, this.1.symm, this.2.symm⟩

/-- The three procedures check the hinted quotient `(x1, x0)` and remainder `(x3, x2)` in the same way:
    the schoolbook product `q · b` has no limb beyond the second (`c1 c2 c3`), `r < b` (`c4`), and
    `r + q · b` is `a` limb by limb without a carry out (`c5 c6 c7`).  The hypotheses have the form in
    which the symbolic executor leaves them. -/
theorem div_checks_sound {x0 x1 x2 x3 bh bl ah al : Nat}
    (hx0 : x0 < two32) (hx1 : x1 < two32) (hx2 : x2 < two32) (hbh : bh < two32) (hbl : bl < two32)
    (c1 : (bh * x0 + bl * x0 / two32) / two32 = 0)
    (c2 : (bl * x1 + (bh * x0 + bl * x0 / two32) % two32) / two32 = 0)
    (c3 : fmul bh x1 = 0)
    (c4 : x3 < bh ∨ x2 < bl ∧ x3 = bh)
    (c5 : ((x2 + bl * x0 % two32) / two32 + (bl * x1 + (bh * x0 + bl * x0 / two32) % two32) % two32 + x3) / two32 = 0)
    (c6 : ((x2 + bl * x0 % two32) / two32 + (bl * x1 + (bh * x0 + bl * x0 / two32) % two32) % two32 + x3) % two32 = ah)
    (c7 : (x2 + bl * x0 % two32) % two32 = al) :
    u64of bh bl ≠ 0 ∧ u64of x1 x0 = u64of ah al / u64of bh bl ∧ u64of x3 x2 = u64of ah al % u64of bh bl := by
  refine divmod_unique _ _ _ _ ?_ ?_
  · rw [U64Mul.u64of_mul]
    rw [u32_fmul_small hbh hx1] at c3
    have b0 := mul_le_u32 hbl hx0
    have b1 := mul_le_u32 hbh hx0
    have b2 := mul_le_u32 hbl hx1
    rw [Nat.mul_comm x1 bh, Nat.mul_comm x1 bl, Nat.mul_comm x0 bh, Nat.mul_comm x0 bl, c3]
    generalize bl * x0 = p0 at *
    generalize bh * x0 = p1 at *
    generalize bl * x1 = p2 at *
    simp only [u64of, two32, two64] at *
    omega
  · simp only [u64of, two32] at *
    omega

/-- **`std::math::u64::div` is sound for every advice tape**: whatever the host supplies as the hinted
    quotient and remainder (any field elements, any length of tape), if the procedure completes then
    the divisor is non-zero and the result is exactly `⌊a / b⌋`, with the rest of the stack untouched. -/
theorem u64_div_sound (vm : Vm) (bh bl ah al : Nat) (r out : List Nat) (hs : vm.stack = bh :: bl :: ah :: al :: r)
    (h3 : bh < two32) (h2 : bl < two32) (h1 : ah < two32) (h0 : al < two32) (hr : 16 ≤ r.length)
    (h : stackRun Generated.u64_div vm = .ok out) :
    u64of bh bl ≠ 0 ∧
      out = (u64of ah al / u64of bh bl) / two32 :: (u64of ah al / u64of bh bl) % two32 :: r := by
  obtain ⟨ops', hsub⟩ := subst_exists _ (by decide) vm out h
  rw [stackRun_subst _ (by decide) vm _ hsub, hs] at h
  generalize vm.adv = adv at hsub
  rcases adv with _ | ⟨x0, _ | ⟨x1, _ | ⟨x2, _ | ⟨x3, xs⟩⟩⟩⟩ <;>
    simp only [Generated.u64_div, substAdv, Option.map_some, Option.map_none, Option.some.injEq, reduceCtorEq] at hsub
  subst hsub
  -- run the list (side conditions on flags and limbs: `binb`), bring the conditions learnt into integer
  -- form (limb bounds: `u32b`; the comparison `r < b`: hypotheses); `mod` and `divmod` go the same way
  simp (disch := binb) only [pure_exec, assert_bind_ok, u32assert2_bind_ok, bit_eq_one] at h
  obtain ⟨a1, a0, c1, c2, c3, a3, a2, c4, c5, c6, c7, ho⟩ := h
  simp (disch := u32b) only [u32_small] at c1 c2 c5 c6 c7
  simp (disch := assumption) only [u32_sub_borrow, u32_sub_lo_eq_zero, bit_eq_one] at c4
  obtain ⟨hb, hq, _⟩ := div_checks_sound a0 a1 a2 h3 h2 c1 c2 c3 c4 c5 c6 c7
  obtain ⟨e1, e0⟩ := u64of_split a0 hq
  exact ⟨hb, by rw [← Except.ok.inj ho, e1, e0]⟩

/-- `std::math::u64::mod` is sound for every advice tape: a completed run leaves exactly `a mod b`. -/
theorem u64_mod_sound (vm : Vm) (bh bl ah al : Nat) (r out : List Nat) (hs : vm.stack = bh :: bl :: ah :: al :: r)
    (h3 : bh < two32) (h2 : bl < two32) (h1 : ah < two32) (h0 : al < two32) (hr : 16 ≤ r.length)
    (h : stackRun Generated.u64_mod vm = .ok out) :
    u64of bh bl ≠ 0 ∧
      out = (u64of ah al % u64of bh bl) / two32 :: (u64of ah al % u64of bh bl) % two32 :: r := by
  obtain ⟨ops', hsub⟩ := subst_exists _ (by decide) vm out h
  rw [stackRun_subst _ (by decide) vm _ hsub, hs] at h
  generalize vm.adv = adv at hsub
  rcases adv with _ | ⟨x0, _ | ⟨x1, _ | ⟨x2, _ | ⟨x3, xs⟩⟩⟩⟩ <;>
    simp only [Generated.u64_mod, substAdv, Option.map_some, Option.map_none, Option.some.injEq, reduceCtorEq] at hsub
  subst hsub
  simp (disch := binb) only [pure_exec, assert_bind_ok, u32assert2_bind_ok, bit_eq_one] at h
  obtain ⟨a1, a0, c1, c2, c3, a3, a2, c4, c5, c6, c7, ho⟩ := h
  simp (disch := u32b) only [u32_small] at c1 c2 c5 c6 c7
  simp (disch := assumption) only [u32_sub_borrow, u32_sub_lo_eq_zero, bit_eq_one] at c4
  obtain ⟨hb, _, hm⟩ := div_checks_sound a0 a1 a2 h3 h2 c1 c2 c3 c4 c5 c6 c7
  obtain ⟨e1, e0⟩ := u64of_split a2 hm
  exact ⟨hb, by rw [← Except.ok.inj ho, e1, e0]⟩

/-- `std::math::u64::divmod` is sound for every advice tape: a completed run leaves `[r_hi, r_lo, q_hi, q_lo]` with `q = ⌊a / b⌋`, `r = a mod b`. -/
theorem u64_divmod_sound (vm : Vm) (bh bl ah al : Nat) (r out : List Nat) (hs : vm.stack = bh :: bl :: ah :: al :: r)
    (h3 : bh < two32) (h2 : bl < two32) (h1 : ah < two32) (h0 : al < two32) (hr : 16 ≤ r.length)
    (h : stackRun Generated.u64_divmod vm = .ok out) :
    u64of bh bl ≠ 0 ∧
      out = (u64of ah al % u64of bh bl) / two32 :: (u64of ah al % u64of bh bl) % two32 ::
        (u64of ah al / u64of bh bl) / two32 :: (u64of ah al / u64of bh bl) % two32 :: r := by
  obtain ⟨ops', hsub⟩ := subst_exists _ (by decide) vm out h
  rw [stackRun_subst _ (by decide) vm _ hsub, hs] at h
  generalize vm.adv = adv at hsub
  rcases adv with _ | ⟨x0, _ | ⟨x1, _ | ⟨x2, _ | ⟨x3, xs⟩⟩⟩⟩ <;>
    simp only [Generated.u64_divmod, substAdv, Option.map_some, Option.map_none, Option.some.injEq, reduceCtorEq] at hsub
  subst hsub
  simp (disch := binb) only [pure_exec, assert_bind_ok, u32assert2_bind_ok, bit_eq_one] at h
  obtain ⟨a1, a0, c1, c2, c3, a3, a2, c4, c5, c6, c7, ho⟩ := h
  simp (disch := u32b) only [u32_small] at c1 c2 c5 c6 c7
  simp (disch := assumption) only [u32_sub_borrow, u32_sub_lo_eq_zero, bit_eq_one] at c4
  obtain ⟨hb, hq, hm⟩ := div_checks_sound a0 a1 a2 h3 h2 c1 c2 c3 c4 c5 c6 c7
  obtain ⟨e1, e0⟩ := u64of_split a0 hq
  obtain ⟨e3, e2⟩ := u64of_split a2 hm
  exact ⟨hb, by rw [← Except.ok.inj ho, e1, e0, e3, e2]⟩

end Miden.U64Div
