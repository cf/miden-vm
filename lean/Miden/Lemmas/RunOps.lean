/-
  Running a list of operations on a stack (no clock), the refinement relation between such a run
  and the instruction reference, and the simp-normal form for stacks: explicit elements followed
  by `padN k rest`.
-/
import Miden.Spec.Instr
import Miden.Lemmas.Step
import Miden.Lemmas.Felt
namespace Miden

/-- Run a straight-line operation list (the semantics of a span without its bookkeeping rows). -/
def runOps : List Op → Vm → Except Err Vm
  | [], vm => .ok vm
  | op :: rest, vm => match vm.step op with
    | .error e => .error e
    | .ok vm' => runOps rest vm'

/-- Stack-level view of `runOps` from a state whose other components are arbitrary. -/
def stackRun (ops : List Op) (vm : Vm) : Except Err (List Nat) :=
  match runOps ops vm with
  | .ok v => .ok v.stack
  | .error e => .error e

/-- The implementation's outcome agrees with the reference wherever the reference is defined. -/
def Refines (impl : Except Err (List Nat)) (spec : Spec.R) : Prop :=
  match spec with
  | .ok s => impl = .ok s
  | .error (.fail (some e)) => impl = .error e
  | .error (.fail none) => ∃ e, impl = .error e
  | .error .undefined => True

def padN (n : Nat) (l : List Nat) : List Nat := l ++ List.replicate (n - l.length) 0

theorem pad16_eq (l : List Nat) : pad16 l = padN 16 l := rfl

@[simp] theorem padN_cons (n x : Nat) (l : List Nat) : padN (n + 1) (x :: l) = x :: padN n l := by
  simp [padN]

@[simp] theorem padN_zero (l : List Nat) : padN 0 l = l := by simp [padN]

@[simp] theorem padN_padN (m n : Nat) (l : List Nat) : padN m (padN n l) = padN (max m n) l := by
  unfold padN
  simp only [List.length_append, List.length_replicate, List.append_assoc, List.replicate_append_replicate]
  congr 2
  omega

theorem padN_of_le {n : Nat} {l : List Nat} (h : n ≤ l.length) : padN n l = l := by
  unfold padN
  have : n - l.length = 0 := by omega
  simp [this]

theorem padN_len (n : Nat) (l : List Nat) : (padN n l).length = max n l.length := by
  unfold padN
  simp only [List.length_append, List.length_replicate]
  omega

/-! Combinator view of the runners: lets `simp` push the remaining operations into the branches of
    an operation's guard (`if … then error else ok …`) instead of getting stuck on a `match`. -/

theorem step_eq_map (vm : Vm) (op : Op) :
    vm.step op = (vm.stepCore op).map (fun r => { r with clk := vm.clk, trace := vm.trace }) := by
  unfold Vm.step
  cases vm.stepCore op <;> rfl

theorem runOps_nil (vm : Vm) : runOps [] vm = .ok vm := rfl

theorem runOps_cons (op : Op) (rest : List Op) (vm : Vm) :
    runOps (op :: rest) vm = (vm.step op).bind (runOps rest) := by
  simp only [runOps]
  cases vm.step op <;> rfl

theorem runOps_append (a b : List Op) (vm : Vm) :
    runOps (a ++ b) vm = (runOps a vm).bind (runOps b) := by
  induction a generalizing vm with
  | nil => rfl
  | cons op rest ih =>
    rw [List.cons_append, runOps_cons, runOps_cons]
    cases vm.step op with
    | error e => rfl
    | ok v => exact ih v

theorem stackRun_eq (ops : List Op) (vm : Vm) :
    stackRun ops vm = (runOps ops vm).map (fun v => v.stack) := by
  unfold stackRun
  cases runOps ops vm <;> rfl

theorem Except.map_ok' {ε α β : Type} (f : α → β) (a : α) :
    Except.map f (Except.ok a : Except ε α) = Except.ok (f a) := rfl
theorem Except.map_error' {ε α β : Type} (f : α → β) (e : ε) :
    Except.map f (Except.error e : Except ε α) = Except.error e := rfl
theorem Except.bind_ok' {ε α β : Type} (f : α → Except ε β) (a : α) :
    Except.bind (Except.ok a : Except ε α) f = f a := rfl
/-- `Except.bind_ok'` for the symbolic executors.  Not by `rfl`: with an `rfl` lemma `simp` records no
    step and the kernel re-checks it by unfolding the run that follows the bind, which on stacks of
    open terms like `_ / 2 ^ 63` does not end. -/
theorem Except.bind_ok_step {ε α β : Type} (f : α → Except ε β) (a : α) :
    Except.bind (Except.ok a : Except ε α) f = f a := (Except.bind_ok' f a).trans rfl
theorem Except.bind_error' {ε α β : Type} (f : α → Except ε β) (e : ε) :
    Except.bind (Except.error e : Except ε α) f = Except.error e := rfl
theorem Except.map_ite {ε α β : Type} (f : α → β) (c : Prop) [Decidable c] (a b : Except ε α) :
    Except.map f (if c then a else b) = if c then Except.map f a else Except.map f b := by
  split <;> rfl
theorem Except.bind_ite {ε α β : Type} (f : α → Except ε β) (c : Prop) [Decidable c]
    (a b : Except ε α) :
    Except.bind (if c then a else b) f = if c then Except.bind a f else Except.bind b f := by
  split <;> rfl

end Miden
