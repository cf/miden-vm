/-
  The gated constraint groups of the stack AIR (system, field, stack manipulation, u32, io, and the
  top-binary constraint), each solved for one operation: on a row carrying the opcode of `op` the group
  vanishes iff a few equations in solved form hold (`systemD` … `topD`), and it vanishes outright for the
  operations it does not gate.
-/
import Miden.Lemmas.AirTac
import Miden.Lemmas.SimpSets
namespace Miden.Air
variable {F : Type} [Field F] {cur nxt : Row F} {op : Op}

theorem is_code {k : Nat} (hop : cur.opcode = k) (j : Nat) : cur.is j = if k = j then 1 else 0 := by
  simp [Row.is, hop, c]

theorem inR_code {k : Nat} (hop : cur.opcode = k) (lo hi : Nat) :
    cur.inR lo hi = if lo ≤ k ∧ k < hi then 1 else 0 := by
  simp [Row.inR, hop, c]

-- `List.forall_mem_append` and no `List.cons_append`: flattening the left-nested appends of `manipCs`
-- takes a quadratic number of steps, once for every operation of `manip_iff`.
attribute [air_eval] Op.code c List.forall_mem_append List.forall_mem_cons List.not_mem_nil List.map
  IsEmpty.forall_iff implies_true if_false if_true Nat.cast_zero Nat.cast_one Nat.cast_ofNat zero_mul one_mul
  mul_zero mul_one add_zero zero_add sub_self sub_zero sub_eq_zero true_and and_true and_self and_assoc
attribute [air_eval_proc] Nat.reduceEqDiff Nat.reduceLeDiff Nat.reduceLT Nat.reduceAdd

theorem systemCs_zero (h : cur.opcode ∉ [32, 6, 47, 63]) : ∀ x ∈ systemCs cur nxt, x = 0 := by
  simp only [List.mem_cons, List.not_mem_nil, or_false, not_or] at h
  simp [systemCs, Row.is, h, c]

def systemD (cur nxt : Row F) : Op → Prop
  | .assert _ => cur.st 0 = 1
  | .fmpadd => cur.st 0 + cur.fmp = nxt.st 0
  | .fmpupdate => cur.fmp + cur.st 0 = nxt.fmp
  | .clk => nxt.st 0 = cur.clk
  | _ => True

theorem system_iff (op : Op) (hop : cur.opcode = op.code) :
    (∀ x ∈ systemCs cur nxt, x = 0) ↔ systemD cur nxt op := by
  cases op <;> first
    | exact ⟨fun _ => trivial, fun _ => systemCs_zero (hop ▸ by decide)⟩
    | simp only [systemCs, systemD, is_code hop, air_eval]

theorem fieldCs_zero (h : cur.opcode ∉ [34, 2, 35, 3, 4, 5, 36, 37, 33, 1, 15, 25]) :
    ∀ x ∈ fieldCs cur nxt, x = 0 := by
  simp only [List.mem_cons, List.not_mem_nil, or_false, not_or] at h
  simp [fieldCs, Row.is, h, c]

def fieldD (cur nxt : Row F) : Op → Prop
  | .add => cur.st 0 + cur.st 1 = nxt.st 0
  | .neg => cur.st 0 + nxt.st 0 = 0
  | .mul => cur.st 0 * cur.st 1 = nxt.st 0
  | .inv => cur.st 0 * nxt.st 0 = 1
  | .incr => cur.st 0 + 1 = nxt.st 0
  | .not => cur.st 0 + nxt.st 0 = 1
  | .and => cur.st 1 * cur.st 1 = cur.st 1 ∧ nxt.st 0 = cur.st 0 * cur.st 1
  | .or => cur.st 1 * cur.st 1 = cur.st 1 ∧ nxt.st 0 = cur.st 0 + cur.st 1 - cur.st 0 * cur.st 1
  | .eq => (cur.st 0 - cur.st 1) * nxt.st 0 = 0 ∧ nxt.st 0 = 1 - (cur.st 0 - cur.st 1) * cur.hp 0
  | .eqz => cur.st 0 * nxt.st 0 = 0 ∧ nxt.st 0 = 1 - cur.st 0 * cur.hp 0
  | .expacc => nxt.st 1 = cur.st 1 * cur.st 1 ∧ cur.hp 0 - 1 = (cur.st 1 - 1) * nxt.st 0 ∧
      nxt.st 2 = cur.st 2 * cur.hp 0 ∧ cur.st 3 = nxt.st 3 * 2 + nxt.st 0
  | .ext2mul => nxt.st 0 = cur.st 0 ∧ nxt.st 1 = cur.st 1 ∧
      nxt.st 2 = (cur.st 3 + cur.st 2) * (cur.st 0 + cur.st 1) - cur.st 3 * cur.st 1 ∧
      nxt.st 3 = cur.st 3 * cur.st 1 - 2 * cur.st 2 * cur.st 0
  | _ => True

theorem field_iff (op : Op) (hop : cur.opcode = op.code) :
    (∀ x ∈ fieldCs cur nxt, x = 0) ↔ fieldD cur nxt op := by
  cases op <;> first
    | exact ⟨fun _ => trivial, fun _ => fieldCs_zero (hop ▸ by decide)⟩
    | simp only [fieldCs, fieldD, is_code hop, isBinary, air_eval]

theorem forall_lt_four {p : Nat → Prop} : (∀ i < 4, p i) ↔ p 0 ∧ p 1 ∧ p 2 ∧ p 3 :=
  ⟨fun h => ⟨h 0 (by decide), h 1 (by decide), h 2 (by decide), h 3 (by decide)⟩,
   fun ⟨h0, h1, h2, h3⟩ i hi => by interval_cases i <;> assumption⟩

theorem manipCs_zero (h : cur.opcode ∉ [48, 49, 50, 10, 51, 12, 52, 16, 53, 18, 54, 20, 55, 22, 56, 26,
    57, 58, 59, 60, 8, 24, 28, 29, 30, 11, 13, 17, 19, 21, 23, 27, 42, 43]) :
    ∀ x ∈ manipCs cur nxt, x = 0 := by
  simp only [List.mem_cons, List.not_mem_nil, or_false, not_or] at h
  simp [manipCs, Row.is, h, c]

def manipD (cur nxt : Row F) : Op → Prop
  | .pad => nxt.st 0 = 0
  | .dup0 => nxt.st 0 = cur.st 0 | .dup1 => nxt.st 0 = cur.st 1 | .dup2 => nxt.st 0 = cur.st 2
  | .dup3 => nxt.st 0 = cur.st 3 | .dup4 => nxt.st 0 = cur.st 4 | .dup5 => nxt.st 0 = cur.st 5
  | .dup6 => nxt.st 0 = cur.st 6 | .dup7 => nxt.st 0 = cur.st 7 | .dup9 => nxt.st 0 = cur.st 9
  | .dup11 => nxt.st 0 = cur.st 11 | .dup13 => nxt.st 0 = cur.st 13 | .dup15 => nxt.st 0 = cur.st 15
  | .movup2 => nxt.st 0 = cur.st 2 | .movup3 => nxt.st 0 = cur.st 3 | .movup4 => nxt.st 0 = cur.st 4
  | .movup5 => nxt.st 0 = cur.st 5 | .movup6 => nxt.st 0 = cur.st 6 | .movup7 => nxt.st 0 = cur.st 7
  | .movup8 => nxt.st 0 = cur.st 8
  | .movdn2 => cur.st 0 = nxt.st 2 | .movdn3 => cur.st 0 = nxt.st 3 | .movdn4 => cur.st 0 = nxt.st 4
  | .movdn5 => cur.st 0 = nxt.st 5 | .movdn6 => cur.st 0 = nxt.st 6 | .movdn7 => cur.st 0 = nxt.st 7
  | .movdn8 => cur.st 0 = nxt.st 8
  | .swap => cur.st 0 = nxt.st 1 ∧ cur.st 1 = nxt.st 0
  | .swapw => (∀ i < 4, nxt.st (i + 4) = cur.st i) ∧ ∀ i < 4, cur.st (i + 4) = nxt.st i
  | .swapw2 => (∀ i < 4, nxt.st (i + 8) = cur.st i) ∧ ∀ i < 4, cur.st (i + 8) = nxt.st i
  | .swapw3 => (∀ i < 4, nxt.st (i + 12) = cur.st i) ∧ ∀ i < 4, cur.st (i + 12) = nxt.st i
  | .swapdw => (∀ i < 4, nxt.st (i + 8) = cur.st i) ∧ (∀ i < 4, cur.st (i + 8) = nxt.st i) ∧
      (∀ i < 4, cur.st (i + 4) = nxt.st (i + 12)) ∧ ∀ i < 4, cur.st (i + 12) = nxt.st (i + 4)
  | .cswap => nxt.st 0 = cur.st 1 * (1 - cur.st 0) + cur.st 2 * cur.st 0 ∧
      nxt.st 1 = cur.st 1 * cur.st 0 + cur.st 2 * (1 - cur.st 0)
  | .cswapw => (∀ i < 4, nxt.st i = cur.st (i + 1) * (1 - cur.st 0) + cur.st (i + 5) * cur.st 0) ∧
      ∀ i < 4, nxt.st (i + 4) = cur.st (i + 1) * cur.st 0 + cur.st (i + 5) * (1 - cur.st 0)
  | _ => True

theorem manip_iff (op : Op) (hop : cur.opcode = op.code) :
    (∀ x ∈ manipCs cur nxt, x = 0) ↔ manipD cur nxt op := by
  cases op <;> first
    | exact ⟨fun _ => trivial, fun _ => manipCs_zero (hop ▸ by decide)⟩
    | simp only [manipCs, manipD, is_code hop, bnot, List.range, List.range.loop, forall_lt_four, air_eval]

theorem vLo_eq (r : Row F) : vLo r = 65536 * r.hp 1 + r.hp 0 := by simp [vLo, c, two16]
theorem vHi_eq (r : Row F) : vHi r = 65536 * r.hp 3 + r.hp 2 := by simp [vHi, c, two16]
theorem v48_eq (r : Row F) : v48 r = 4294967296 * r.hp 2 + (65536 * r.hp 1 + r.hp 0) := by
  simp [v48, vLo_eq, c, two32]
theorem v64_eq (r : Row F) :
    v64 r = 4294967296 * (65536 * r.hp 3 + r.hp 2) + (65536 * r.hp 1 + r.hp 0) := by
  simp only [v64, v48_eq, c, two48, Nat.cast_ofNat]
  ring

theorem u32Cs_zero (h : cur.opcode < 64 ∨ 80 ≤ cur.opcode) : ∀ x ∈ u32Cs cur nxt, x = 0 := by
  have e (j : Nat) (hj : 64 ≤ j ∧ j < 80) : cur.is j = 0 := by
    have : cur.opcode ≠ j := by omega
    simp [Row.is, this, c]
  have e' : cur.inR 64 80 = 0 := by
    have : ¬ (64 ≤ cur.opcode ∧ cur.opcode < 80) := by omega
    simp [Row.inR, this, c]
  simp [u32Cs, e, e']

/-- What the u32 constraints say on a row of `op`; `vLo`, `vHi`, `v48`, `v64` aggregate the 16-bit
    limbs in the helper registers. -/
def u32D (cur nxt : Row F) : Op → Prop
  | .u32add => nxt.st 1 = vLo cur ∧ nxt.st 0 = vHi cur ∧ cur.st 0 + cur.st 1 = v48 cur
  | .u32add3 => nxt.st 1 = vLo cur ∧ nxt.st 0 = vHi cur ∧ cur.st 0 + cur.st 1 + cur.st 2 = v48 cur
  | .u32sub => nxt.st 1 = vLo cur ∧ cur.st 1 = cur.st 0 + nxt.st 1 - (two32 : F) * nxt.st 0 ∧
      nxt.st 0 * nxt.st 0 = nxt.st 0
  | .u32mul => (1 - cur.hp 4 * ((two32 : F) - 1 - vHi cur)) * vLo cur = 0 ∧ nxt.st 1 = vLo cur ∧
      nxt.st 0 = vHi cur ∧ cur.st 0 * cur.st 1 = v64 cur
  | .u32madd => (1 - cur.hp 4 * ((two32 : F) - 1 - vHi cur)) * vLo cur = 0 ∧ nxt.st 1 = vLo cur ∧
      nxt.st 0 = vHi cur ∧ cur.st 0 * cur.st 1 + cur.st 2 = v64 cur
  | .u32split => (1 - cur.hp 4 * ((two32 : F) - 1 - vHi cur)) * vLo cur = 0 ∧ nxt.st 1 = vLo cur ∧
      nxt.st 0 = vHi cur ∧ cur.st 0 = v64 cur
  | .u32assert2 _ => nxt.st 1 = vHi cur ∧ nxt.st 0 = vLo cur
  | .u32div => cur.st 0 * nxt.st 1 + nxt.st 0 = cur.st 1 ∧ cur.st 1 - nxt.st 1 = vLo cur ∧
      cur.st 0 - nxt.st 0 = vHi cur + 1
  | _ => True

theorem u32_iff (op : Op) (hop : cur.opcode = op.code) :
    (∀ x ∈ u32Cs cur nxt, x = 0) ↔ u32D cur nxt op := by
  cases op <;> first
    | exact ⟨fun _ => trivial, fun _ => u32Cs_zero (hop ▸ by decide)⟩
    | simp only [u32Cs, u32D, is_code hop, inR_code hop, isBinary, air_eval]

theorem ioCs_zero (h : cur.opcode ∉ [62, 82, 83]) : ∀ x ∈ ioCs cur nxt, x = 0 := by
  simp only [List.mem_cons, List.not_mem_nil, or_false, not_or] at h
  simp [ioCs, Row.is, h, c]

def ioD (cur nxt : Row F) : Op → Prop
  | .sdepth => nxt.st 0 = cur.b0
  | .pipe | .mstream => nxt.st 12 = cur.st 12 + 2
  | _ => True

theorem io_iff (op : Op) (hop : cur.opcode = op.code) :
    (∀ x ∈ ioCs cur nxt, x = 0) ↔ ioD cur nxt op := by
  cases op <;> first
    | exact ⟨fun _ => trivial, fun _ => ioCs_zero (hop ▸ by decide)⟩
    | simp only [ioCs, ioD, is_code hop, air_eval]

theorem topBinaryC_zero (h : cur.opcode ∉ [5, 15, 36, 37, 42, 43]) : topBinaryC cur nxt = 0 := by
  simp only [List.mem_cons, List.not_mem_nil, or_false, not_or] at h
  simp [topBinaryC, topBinary, Row.is, h, c]

/-- Which cell the top-binary constraint makes binary on a row of `op`. -/
def topD (cur nxt : Row F) : Op → Prop
  | .not | .and | .or | .cswap | .cswapw => cur.st 0 * cur.st 0 = cur.st 0
  | .expacc => nxt.st 0 * nxt.st 0 = nxt.st 0
  | _ => True

theorem topBinary_iff (op : Op) (hop : cur.opcode = op.code) :
    topBinaryC cur nxt = 0 ↔ topD cur nxt op := by
  cases op <;> first
    | exact ⟨fun _ => trivial, fun _ => topBinaryC_zero (hop ▸ by decide)⟩
    | simp only [topBinaryC, topBinary, topD, is_code hop, isBinary, air_eval]

/-- How the demands state "binary". -/
theorem binary_of_sq {x : F} (h : x * x = x) : x = 0 ∨ x = 1 := by
  have : x * (x - 1) = 0 := by linear_combination h
  rcases mul_eq_zero.mp this with h0 | h1
  · exact Or.inl h0
  · exact Or.inr (by linear_combination h1)

end Miden.Air
