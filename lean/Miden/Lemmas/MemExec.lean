/-
  Symbolic execution of straight-line code that uses the stack, the free-memory pointer and
  memory (no advice, no clock): `runOps ops vm` is `runM vm.ctx ops ⟨stack, fmp, mem⟩` for such
  operations (`runOps_m`), with an evaluation rule for each memory operation the procedures at hand
  use and `rm_pure` handing the stack-only operations over to the `ps_*` rules of `Lemmas/Pure.lean`
  (together the simp set `sym_exec`, which runs a whole span in one `simp`).
-/
import Miden.Lemmas.Pure
namespace Miden

structure MSt where
  stack : List Nat
  fmp : Nat
  mem : Mem

/-- Operations whose effect is a function of stack, fmp and memory of the current context. -/
def Op.isMSimple (op : Op) : Bool :=
  op.isStackOnly || (match op with
    | .fmpadd | .fmpupdate | .mload | .mloadw | .mstore | .mstorew | .mstream => true
    | _ => false)

def mStep (ctx : Nat) (op : Op) (s : MSt) : Except Err MSt :=
  match Vm.stepCore { stack := s.stack, fmp := s.fmp, mem := s.mem, ctx := ctx } op with
  | .ok v => .ok ⟨v.stack, v.fmp, v.mem⟩
  | .error e => .error e

def runM (ctx : Nat) : List Op → MSt → Except Err MSt
  | [], s => .ok s
  | op :: rest, s => match mStep ctx op s with
    | .ok s' => runM ctx rest s'
    | .error e => .error e

theorem Op.parts_of_isMSimple {op : Op} (h : op.isMSimple = true) : op.parts ⊆ { fmp := true, mem := true } := by
  cases op <;> first | rfl | cases h

theorem stepCore_m (vm : Vm) (op : Op) (h : op.isMSimple = true) :
    vm.stepCore op = match mStep vm.ctx op ⟨vm.stack, vm.fmp, vm.mem⟩ with
      | .ok s => .ok { vm with stack := s.stack, fmp := s.fmp, mem := s.mem }
      | .error e => .error e := by
  unfold mStep
  rw [show vm.stepCore op = _ from Vm.stepCore_overlay (Op.parts_of_isMSimple h)
    { stack := vm.stack, fmp := vm.fmp, mem := vm.mem, ctx := vm.ctx } vm]
  cases Vm.stepCore { stack := vm.stack, fmp := vm.fmp, mem := vm.mem, ctx := vm.ctx } op <;> rfl

theorem runOps_m (ops : List Op) (h : ops.all Op.isMSimple = true) (vm : Vm) :
    runOps ops vm = match runM vm.ctx ops ⟨vm.stack, vm.fmp, vm.mem⟩ with
      | .ok s => .ok { vm with stack := s.stack, fmp := s.fmp, mem := s.mem }
      | .error e => .error e := by
  induction ops generalizing vm with
  | nil => rfl
  | cons op rest ih =>
    simp only [List.all_cons, Bool.and_eq_true] at h
    simp only [runOps, runM, Vm.step_eq_stepCore, stepCore_m vm op h.1]
    cases hp : mStep vm.ctx op ⟨vm.stack, vm.fmp, vm.mem⟩ with
    | error e => rfl
    | ok s => exact ih h.2 { vm with stack := s.stack, fmp := s.fmp, mem := s.mem }

@[sym_exec] theorem runM_nil (ctx : Nat) (s : MSt) : runM ctx [] s = .ok s := rfl

theorem runM_cons_ok {ctx : Nat} {op : Op} {rest : List Op} {s s' : MSt} (h : mStep ctx op s = .ok s') :
    runM ctx (op :: rest) s = runM ctx rest s' := by simp [runM, h]

theorem mStep_pure (ctx : Nat) (op : Op) (s : List Nat) (f : Nat) (m : Mem) (h : op.isStackOnly = true) :
    mStep ctx op ⟨s, f, m⟩ = (pureStep op s).map (fun s' => ⟨s', f, m⟩) := by
  have h1 := stepCore_pure { stack := s, fmp := f, mem := m, ctx := ctx } op h
  unfold mStep
  rw [h1]
  simp only
  cases pureStep op s <;> rfl

@[sym_exec] theorem rm_pure {ctx : Nat} {op : Op} {rest : List Op} {s : List Nat} {f : Nat} {m : Mem}
    (h : op.isStackOnly = true) :
    runM ctx (op :: rest) ⟨s, f, m⟩ = (pureStep op s).bind (fun s' => runM ctx rest ⟨s', f, m⟩) := by
  simp only [runM, mStep_pure ctx op s f m h]
  cases pureStep op s <;> rfl

@[sym_exec] theorem rm_fmpadd {ctx a : Nat} {r : List Nat} {f : Nat} {m : Mem} {rest : List Op} :
    runM ctx (.fmpadd :: rest) ⟨a :: r, f, m⟩ = runM ctx rest ⟨fadd f a :: r, f, m⟩ :=
  runM_cons_ok (by simp [mStep, Vm.stepCore, Vm.setStack])

@[sym_exec] theorem rm_fmpupdate {ctx a : Nat} {r : List Nat} {f : Nat} {m : Mem} {rest : List Op}
    (h1 : FMP_MIN ≤ fadd f a) (h2 : fadd f a ≤ FMP_MAX) :
    runM ctx (.fmpupdate :: rest) ⟨a :: r, f, m⟩ = runM ctx rest ⟨padN 16 r, fadd f a, m⟩ :=
  runM_cons_ok (by
    have : ¬ (fadd f a < FMP_MIN ∨ fadd f a > FMP_MAX) := by omega
    simp [mStep, Vm.stepCore, this, pad16_eq])

@[sym_exec] theorem rm_mstorew {ctx a s1 s2 s3 s4 : Nat} {r : List Nat} {f : Nat} {m : Mem} {rest : List Op}
    (h : a ≤ u32max) :
    runM ctx (.mstorew :: rest) ⟨a :: s1 :: s2 :: s3 :: s4 :: r, f, m⟩
      = runM ctx rest ⟨padN 16 (s1 :: s2 :: s3 :: s4 :: r), f, m.write ctx a ⟨s4, s3, s2, s1⟩⟩ :=
  runM_cons_ok (by
    have : ¬ (a > u32max) := by omega
    simp [mStep, Vm.stepCore, Vm.validAddr, this, pad16_eq])

@[sym_exec] theorem rm_mloadw {ctx a x1 x2 x3 x4 : Nat} {r : List Nat} {f : Nat} {m : Mem} {rest : List Op}
    (h : a ≤ u32max) :
    runM ctx (.mloadw :: rest) ⟨a :: x1 :: x2 :: x3 :: x4 :: r, f, m⟩
      = runM ctx rest ⟨padN 16 ((m.read ctx a).w3 :: (m.read ctx a).w2 :: (m.read ctx a).w1 :: (m.read ctx a).w0 :: r), f, m⟩ :=
  runM_cons_ok (by
    have : ¬ (a > u32max) := by omega
    simp [mStep, Vm.stepCore, Vm.validAddr, Vm.setStack, this, pad16_eq])

@[sym_exec] theorem rm_mstream {ctx x0 x1 x2 x3 x4 x5 x6 x7 s8 s9 s10 s11 a : Nat} {r : List Nat} {f : Nat} {m : Mem}
    {rest : List Op} (h : a + 1 ≤ u32max) :
    runM ctx (.mstream :: rest) ⟨x0 :: x1 :: x2 :: x3 :: x4 :: x5 :: x6 :: x7 :: s8 :: s9 :: s10 :: s11 :: a :: r, f, m⟩
      = runM ctx rest ⟨(m.read ctx (a + 1)).w3 :: (m.read ctx (a + 1)).w2 :: (m.read ctx (a + 1)).w1 :: (m.read ctx (a + 1)).w0
          :: (m.read ctx a).w3 :: (m.read ctx a).w2 :: (m.read ctx a).w1 :: (m.read ctx a).w0
          :: s8 :: s9 :: s10 :: s11 :: (a + 2) :: r, f, m⟩ :=
  runM_cons_ok (by
    have h1 : ¬ (a > u32max) := by omega
    have h2 : ¬ (a + 1 > u32max) := by omega
    simp [mStep, Vm.stepCore, Vm.validAddr, Vm.setStack, h1, h2])

-- The `ps_*` rules listed are those of the stack-only operations the four stdlib procedures contain; a
-- new procedure adds the rules of its own operations.
attribute [sym_exec] Except.bind_ok_step padN_cons padN_zero padN_padN ps_push ps_drop ps_pad ps_sdepth ps_eq
  ps_eqz ps_not_ite ps_noop ps_neg ps_incr ps_swapw ps_swapw2 ps_swapw3 ps_swapdw ps_dup4 ps_dup5 ps_dup6 ps_dup13
  ps_movup3 ps_movup5 ps_movup8

end Miden
