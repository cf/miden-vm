/-
  The simp sets of the development (an attribute cannot be used in the module that registers it); each
  is described where its rules are tagged: `pure_exec` in `Lemmas/Pure.lean` (fused rules added in
  `Lemmas/HashTac.lean`), `u32_small` in `Lemmas/U32Arith.lean`, `sym_exec` in `Lemmas/MemExec.lean` and
  `Lemmas/AdvExec.lean`, `air_eval` in `Lemmas/AirGroups.lean`.
-/
import Lean
register_simp_attr pure_exec
register_simp_attr u32_small
register_simp_attr sym_exec
register_simp_attr air_eval
