/-
  `u64of`, the value of a limb pair, in which the statements of `Props/C16.lean` are written, and
  `u64_tac`: a 64-bit procedure of the standard library by one `simp` with `Vm.stepCore` unfolded.  No
  proof uses the tactic; `Props/C16.lean` runs the symbolic executor of `Lemmas/Pure.lean`.
-/
import Miden.Lemmas.RunOps
import Miden.Generated.StdlibMath
import Mathlib.Tactic.SplitIfs
namespace Miden

/-- A 64-bit value from its 32-bit limbs. -/
@[reducible] def u64of (hi lo : Nat) : Nat := hi * two32 + lo

/-- Symbolic execution of a stdlib span on `[x3, x2, x1, x0] ++ rest` with all limbs < 2^32 and
    at least 16 further elements below (so that no zero padding is involved). -/
macro "u64_tac" ops:ident : tactic => `(tactic| (
  intro vm x3 x2 x1 x0 rest hs h3 h2 h1 h0 hr
  have p12 : padN 12 rest = rest := padN_of_le (by omega)
  have p13 : padN 13 rest = rest := padN_of_le (by omega)
  have p14 : padN 14 rest = rest := padN_of_le (by omega)
  have p15 : padN 15 rest = rest := padN_of_le (by omega)
  have p16 : padN 16 rest = rest := padN_of_le (by omega)
  have n3 : ¬ (two32 ≤ x3) := by omega
  have n2 : ¬ (two32 ≤ x2) := by omega
  have n1 : ¬ (two32 ≤ x1) := by omega
  have n0 : ¬ (two32 ≤ x0) := by omega
  simp [stackRun_eq, runOps_cons, runOps_nil, step_eq_map, Except.map_ok', Except.map_error',
    Except.bind_ok', Except.bind_error', Except.map_ite, Except.bind_ite, $ops:ident, Vm.stepCore, Vm.setStack, Vm.dup, Vm.movup, Vm.movdn,
    insertAt, hs, pad16_eq, p12, p13, p14, p15, p16, n0, n1, n2, n3]
  all_goals (try (split_ifs <;> simp_all))
  all_goals (try (simp only [fadd, fsub, fneg, splitHi, splitLo, two32, u32max, two64, P, u64of] at *))
  all_goals (try omega)))

end Miden
