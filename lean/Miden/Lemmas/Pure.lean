/-
  Stack-only view of straight-line code: for operations whose effect is a function of the operand
  stack alone, running them on a machine state is running `pureStep` on its stack
  (`stackRun_pure`).  The evaluation lemmas `ps_*` give the result of each such operation on a
  stack whose top elements are explicit; with `runPure_cons` they are the rewrite rules of the
  symbolic executor used for the standard-library procedures (`pure_exec`); the step rules `rp_*`
  (one operation of a run, for `rw`) and `rp_*_total` (operations with a guard) serve the proofs about
  single instructions.
-/
import Miden.Lemmas.RunOps
import Miden.Lemmas.SimpSets
namespace Miden

/-- Operations whose effect is a function of the operand stack alone. -/
def Op.isStackOnly : Op → Bool
  | .fmpadd | .fmpupdate | .caller | .clk | .advpop | .advpopw | .mloadw | .mstorew | .mload
  | .mstore | .mstream | .pipe | .mpverify | .mrupdate | .frie2f4 | .rcombbase => false
  | .join | .split | .loop | .call | .dyn | .syscall | .span | .end | .repeat | .respan | .halt => false
  | _ => true

def pureStep (op : Op) (s : List Nat) : Except Err (List Nat) :=
  match Vm.stepCore { stack := s } op with
  | .ok v => .ok v.stack
  | .error e => .error e

def runPure : List Op → List Nat → Except Err (List Nat)
  | [], s => .ok s
  | op :: rest, s => match pureStep op s with
    | .ok s' => runPure rest s'
    | .error e => .error e

theorem Op.parts_of_isStackOnly {op : Op} (h : op.isStackOnly = true) : op.parts ⊆ {} := by
  cases op <;> first | rfl | cases h

theorem stepCore_pure (vm : Vm) (op : Op) (h : op.isStackOnly = true) :
    vm.stepCore op = match pureStep op vm.stack with
      | .ok s => .ok { vm with stack := s }
      | .error e => .error e := by
  unfold pureStep
  rw [show vm.stepCore op = _ from Vm.stepCore_overlay (Op.parts_of_isStackOnly h) { stack := vm.stack } vm]
  cases Vm.stepCore { stack := vm.stack } op <;> rfl

theorem stackRun_pure (ops : List Op) (h : ops.all Op.isStackOnly = true) (vm : Vm) :
    stackRun ops vm = runPure ops vm.stack := by
  unfold stackRun
  induction ops generalizing vm with
  | nil => rfl
  | cons op rest ih =>
    simp only [List.all_cons, Bool.and_eq_true] at h
    simp only [runOps, runPure, Vm.step_eq_stepCore, stepCore_pure vm op h.1]
    cases hp : pureStep op vm.stack with
    | error e => rfl
    | ok s => exact ih h.2 { vm with stack := s }

/-- `stackRun_pure` at a state whose stack is given by an equation; that the list is stack-only is
    found by evaluation at the call. -/
theorem stackRun_at {ops : List Op} {vm : Vm} {s : List Nat} (hs : vm.stack = s)
    (h : ops.all Op.isStackOnly = true := by decide) : stackRun ops vm = runPure ops s := by
  rw [stackRun_pure ops h vm, hs]

theorem ps_sdepth (r : List Nat) :
    pureStep .sdepth r = .ok (r.length :: r) := by
  simp [pureStep, Vm.stepCore, Vm.setStack]

theorem ps_noop (r : List Nat) :
    pureStep .noop r = .ok r := rfl

theorem ps_dup0 (x0 : Nat) (r : List Nat) :
    pureStep .dup0 (x0 :: r) = .ok (x0 :: x0 :: r) := rfl

theorem ps_dup1 (x0 x1 : Nat) (r : List Nat) :
    pureStep .dup1 (x0 :: x1 :: r) = .ok (x1 :: x0 :: x1 :: r) := rfl

theorem ps_dup2 (x0 x1 x2 : Nat) (r : List Nat) :
    pureStep .dup2 (x0 :: x1 :: x2 :: r) = .ok (x2 :: x0 :: x1 :: x2 :: r) := rfl

theorem ps_dup3 (x0 x1 x2 x3 : Nat) (r : List Nat) :
    pureStep .dup3 (x0 :: x1 :: x2 :: x3 :: r) = .ok (x3 :: x0 :: x1 :: x2 :: x3 :: r) := rfl

theorem ps_dup4 (x0 x1 x2 x3 x4 : Nat) (r : List Nat) :
    pureStep .dup4 (x0 :: x1 :: x2 :: x3 :: x4 :: r) = .ok (x4 :: x0 :: x1 :: x2 :: x3 :: x4 :: r) := rfl

theorem ps_dup5 (x0 x1 x2 x3 x4 x5 : Nat) (r : List Nat) :
    pureStep .dup5 (x0 :: x1 :: x2 :: x3 :: x4 :: x5 :: r) = .ok (x5 :: x0 :: x1 :: x2 :: x3 :: x4 :: x5 :: r) := rfl

theorem ps_dup6 (x0 x1 x2 x3 x4 x5 x6 : Nat) (r : List Nat) :
    pureStep .dup6 (x0 :: x1 :: x2 :: x3 :: x4 :: x5 :: x6 :: r) = .ok (x6 :: x0 :: x1 :: x2 :: x3 :: x4 :: x5 :: x6 :: r) := rfl

theorem ps_dup7 (x0 x1 x2 x3 x4 x5 x6 x7 : Nat) (r : List Nat) :
    pureStep .dup7 (x0 :: x1 :: x2 :: x3 :: x4 :: x5 :: x6 :: x7 :: r) = .ok (x7 :: x0 :: x1 :: x2 :: x3 :: x4 :: x5 :: x6 :: x7 :: r) := rfl

theorem ps_dup9 (x0 x1 x2 x3 x4 x5 x6 x7 x8 x9 : Nat) (r : List Nat) :
    pureStep .dup9 (x0 :: x1 :: x2 :: x3 :: x4 :: x5 :: x6 :: x7 :: x8 :: x9 :: r) = .ok (x9 :: x0 :: x1 :: x2 :: x3 :: x4 :: x5 :: x6 :: x7 :: x8 :: x9 :: r) := rfl

theorem ps_dup11 (x0 x1 x2 x3 x4 x5 x6 x7 x8 x9 x10 x11 : Nat) (r : List Nat) :
    pureStep .dup11 (x0 :: x1 :: x2 :: x3 :: x4 :: x5 :: x6 :: x7 :: x8 :: x9 :: x10 :: x11 :: r) = .ok (x11 :: x0 :: x1 :: x2 :: x3 :: x4 :: x5 :: x6 :: x7 :: x8 :: x9 :: x10 :: x11 :: r) := rfl

theorem ps_dup13 (x0 x1 x2 x3 x4 x5 x6 x7 x8 x9 x10 x11 x12 x13 : Nat) (r : List Nat) :
    pureStep .dup13 (x0 :: x1 :: x2 :: x3 :: x4 :: x5 :: x6 :: x7 :: x8 :: x9 :: x10 :: x11 :: x12 :: x13 :: r) = .ok (x13 :: x0 :: x1 :: x2 :: x3 :: x4 :: x5 :: x6 :: x7 :: x8 :: x9 :: x10 :: x11 :: x12 :: x13 :: r) := rfl

theorem ps_dup15 (x0 x1 x2 x3 x4 x5 x6 x7 x8 x9 x10 x11 x12 x13 x14 x15 : Nat) (r : List Nat) :
    pureStep .dup15 (x0 :: x1 :: x2 :: x3 :: x4 :: x5 :: x6 :: x7 :: x8 :: x9 :: x10 :: x11 :: x12 :: x13 :: x14 :: x15 :: r) = .ok (x15 :: x0 :: x1 :: x2 :: x3 :: x4 :: x5 :: x6 :: x7 :: x8 :: x9 :: x10 :: x11 :: x12 :: x13 :: x14 :: x15 :: r) := rfl

theorem ps_swap (x0 x1 : Nat) (r : List Nat) :
    pureStep .swap (x0 :: x1 :: r) = .ok (x1 :: x0 :: r) := rfl

theorem ps_swapw (x0 x1 x2 x3 x4 x5 x6 x7 : Nat) (r : List Nat) :
    pureStep .swapw (x0 :: x1 :: x2 :: x3 :: x4 :: x5 :: x6 :: x7 :: r) = .ok (x4 :: x5 :: x6 :: x7 :: x0 :: x1 :: x2 :: x3 :: r) := rfl

theorem ps_swapw2 (x0 x1 x2 x3 x4 x5 x6 x7 x8 x9 x10 x11 : Nat) (r : List Nat) :
    pureStep .swapw2 (x0 :: x1 :: x2 :: x3 :: x4 :: x5 :: x6 :: x7 :: x8 :: x9 :: x10 :: x11 :: r) = .ok (x8 :: x9 :: x10 :: x11 :: x4 :: x5 :: x6 :: x7 :: x0 :: x1 :: x2 :: x3 :: r) := rfl

theorem ps_swapw3 (x0 x1 x2 x3 x4 x5 x6 x7 x8 x9 x10 x11 x12 x13 x14 x15 : Nat) (r : List Nat) :
    pureStep .swapw3 (x0 :: x1 :: x2 :: x3 :: x4 :: x5 :: x6 :: x7 :: x8 :: x9 :: x10 :: x11 :: x12 :: x13 :: x14 :: x15 :: r) = .ok (x12 :: x13 :: x14 :: x15 :: x4 :: x5 :: x6 :: x7 :: x8 :: x9 :: x10 :: x11 :: x0 :: x1 :: x2 :: x3 :: r) := rfl

theorem ps_swapdw (x0 x1 x2 x3 x4 x5 x6 x7 x8 x9 x10 x11 x12 x13 x14 x15 : Nat) (r : List Nat) :
    pureStep .swapdw (x0 :: x1 :: x2 :: x3 :: x4 :: x5 :: x6 :: x7 :: x8 :: x9 :: x10 :: x11 :: x12 :: x13 :: x14 :: x15 :: r) = .ok (x8 :: x9 :: x10 :: x11 :: x12 :: x13 :: x14 :: x15 :: x0 :: x1 :: x2 :: x3 :: x4 :: x5 :: x6 :: x7 :: r) := rfl

theorem ps_movup2 (x0 x1 x2 : Nat) (r : List Nat) :
    pureStep .movup2 (x0 :: x1 :: x2 :: r) = .ok (x2 :: x0 :: x1 :: r) := rfl

theorem ps_movdn2 (x0 x1 x2 : Nat) (r : List Nat) :
    pureStep .movdn2 (x0 :: x1 :: x2 :: r) = .ok (x1 :: x2 :: x0 :: r) := rfl

theorem ps_movup3 (x0 x1 x2 x3 : Nat) (r : List Nat) :
    pureStep .movup3 (x0 :: x1 :: x2 :: x3 :: r) = .ok (x3 :: x0 :: x1 :: x2 :: r) := rfl

theorem ps_movdn3 (x0 x1 x2 x3 : Nat) (r : List Nat) :
    pureStep .movdn3 (x0 :: x1 :: x2 :: x3 :: r) = .ok (x1 :: x2 :: x3 :: x0 :: r) := rfl

theorem ps_movup4 (x0 x1 x2 x3 x4 : Nat) (r : List Nat) :
    pureStep .movup4 (x0 :: x1 :: x2 :: x3 :: x4 :: r) = .ok (x4 :: x0 :: x1 :: x2 :: x3 :: r) := rfl

theorem ps_movdn4 (x0 x1 x2 x3 x4 : Nat) (r : List Nat) :
    pureStep .movdn4 (x0 :: x1 :: x2 :: x3 :: x4 :: r) = .ok (x1 :: x2 :: x3 :: x4 :: x0 :: r) := rfl

theorem ps_movup5 (x0 x1 x2 x3 x4 x5 : Nat) (r : List Nat) :
    pureStep .movup5 (x0 :: x1 :: x2 :: x3 :: x4 :: x5 :: r) = .ok (x5 :: x0 :: x1 :: x2 :: x3 :: x4 :: r) := rfl

theorem ps_movdn5 (x0 x1 x2 x3 x4 x5 : Nat) (r : List Nat) :
    pureStep .movdn5 (x0 :: x1 :: x2 :: x3 :: x4 :: x5 :: r) = .ok (x1 :: x2 :: x3 :: x4 :: x5 :: x0 :: r) := rfl

theorem ps_movup6 (x0 x1 x2 x3 x4 x5 x6 : Nat) (r : List Nat) :
    pureStep .movup6 (x0 :: x1 :: x2 :: x3 :: x4 :: x5 :: x6 :: r) = .ok (x6 :: x0 :: x1 :: x2 :: x3 :: x4 :: x5 :: r) := rfl

theorem ps_movdn6 (x0 x1 x2 x3 x4 x5 x6 : Nat) (r : List Nat) :
    pureStep .movdn6 (x0 :: x1 :: x2 :: x3 :: x4 :: x5 :: x6 :: r) = .ok (x1 :: x2 :: x3 :: x4 :: x5 :: x6 :: x0 :: r) := rfl

theorem ps_movup7 (x0 x1 x2 x3 x4 x5 x6 x7 : Nat) (r : List Nat) :
    pureStep .movup7 (x0 :: x1 :: x2 :: x3 :: x4 :: x5 :: x6 :: x7 :: r) = .ok (x7 :: x0 :: x1 :: x2 :: x3 :: x4 :: x5 :: x6 :: r) := rfl

theorem ps_movdn7 (x0 x1 x2 x3 x4 x5 x6 x7 : Nat) (r : List Nat) :
    pureStep .movdn7 (x0 :: x1 :: x2 :: x3 :: x4 :: x5 :: x6 :: x7 :: r) = .ok (x1 :: x2 :: x3 :: x4 :: x5 :: x6 :: x7 :: x0 :: r) := rfl

theorem ps_movup8 (x0 x1 x2 x3 x4 x5 x6 x7 x8 : Nat) (r : List Nat) :
    pureStep .movup8 (x0 :: x1 :: x2 :: x3 :: x4 :: x5 :: x6 :: x7 :: x8 :: r) = .ok (x8 :: x0 :: x1 :: x2 :: x3 :: x4 :: x5 :: x6 :: x7 :: r) := rfl

theorem ps_movdn8 (x0 x1 x2 x3 x4 x5 x6 x7 x8 : Nat) (r : List Nat) :
    pureStep .movdn8 (x0 :: x1 :: x2 :: x3 :: x4 :: x5 :: x6 :: x7 :: x8 :: r) = .ok (x1 :: x2 :: x3 :: x4 :: x5 :: x6 :: x7 :: x8 :: x0 :: r) := rfl

theorem ps_pad (r : List Nat) :
    pureStep .pad r = .ok (0 :: r) := rfl

theorem ps_drop (x0 : Nat) (r : List Nat) :
    pureStep .drop (x0 :: r) = .ok (padN 16 r) := rfl

theorem ps_push (v : Nat) (r : List Nat) :
    pureStep (.push v) r = .ok (v :: r) := rfl

theorem ps_add (x0 x1 : Nat) (r : List Nat) :
    pureStep .add (x0 :: x1 :: r) = .ok (padN 16 (fadd x1 x0 :: r)) := rfl

theorem ps_mul (x0 x1 : Nat) (r : List Nat) :
    pureStep .mul (x0 :: x1 :: r) = .ok (padN 16 (fmul x1 x0 :: r)) := rfl

theorem ps_neg (x0 : Nat) (r : List Nat) :
    pureStep .neg (x0 :: r) = .ok (fneg x0 :: r) := rfl

theorem ps_incr (x0 : Nat) (r : List Nat) :
    pureStep .incr (x0 :: r) = .ok (fadd x0 1 :: r) := rfl

theorem ps_eq (x0 x1 : Nat) (r : List Nat) :
    pureStep .eq (x0 :: x1 :: r) = .ok (padN 16 ((if x1 = x0 then 1 else 0) :: r)) := rfl

theorem ps_eqz (x0 : Nat) (r : List Nat) :
    pureStep .eqz (x0 :: r) = .ok ((if x0 = 0 then 1 else 0) :: r) := rfl

theorem ps_u32split (x0 : Nat) (r : List Nat) :
    pureStep .u32split (x0 :: r) = .ok (splitHi x0 :: splitLo x0 :: r) := rfl

theorem ps_u32add (x0 x1 : Nat) (r : List Nat) :
    pureStep .u32add (x0 :: x1 :: r) = .ok (splitHi (fadd x1 x0) :: splitLo (fadd x1 x0) :: r) := rfl

theorem ps_u32add3 (x0 x1 x2 : Nat) (r : List Nat) :
    pureStep .u32add3 (x0 :: x1 :: x2 :: r) = .ok (padN 16 (splitHi ((x2 + x1 + x0) % two64 % P) :: splitLo ((x2 + x1 + x0) % two64 % P) :: r)) := rfl

theorem ps_u32sub (x0 x1 : Nat) (r : List Nat) :
    pureStep .u32sub (x0 :: x1 :: r) = .ok ((x1 + two64 - x0) % two64 / 2 ^ 63 :: (x1 + two64 - x0) % two64 % two32 :: r) := rfl

theorem ps_u32mul (x0 x1 : Nat) (r : List Nat) :
    pureStep .u32mul (x0 :: x1 :: r) = .ok (splitHi (x1 * x0 % two64 % P) :: splitLo (x1 * x0 % two64 % P) :: r) := rfl

theorem ps_u32madd (x0 x1 x2 : Nat) (r : List Nat) :
    pureStep .u32madd (x0 :: x1 :: x2 :: r) = .ok (padN 16 (splitHi ((x1 * x0 + x2) % two64 % P) :: splitLo ((x1 * x0 + x2) % two64 % P) :: r)) := rfl

theorem ps_u32div (x0 x1 : Nat) (r : List Nat) (h0 : x0 ≠ 0) :
    pureStep .u32div (x0 :: x1 :: r) = .ok (x1 % x0 :: x1 / x0 :: r) := by
  simp [pureStep, Vm.stepCore, Vm.setStack, h0]

theorem ps_u32and (x0 x1 : Nat) (r : List Nat) (h1 : x1 < two32) (h0 : x0 < two32) :
    pureStep .u32and (x0 :: x1 :: r) = .ok (padN 16 (Nat.land x1 x0 :: r)) := by
  simp [pureStep, Vm.stepCore, Vm.setStack, pad16_eq, Nat.not_le.mpr h1, Nat.not_le.mpr h0]

theorem ps_u32xor (x0 x1 : Nat) (r : List Nat) (h1 : x1 < two32) (h0 : x0 < two32) :
    pureStep .u32xor (x0 :: x1 :: r) = .ok (padN 16 (Nat.xor x1 x0 :: r)) := by
  simp [pureStep, Vm.stepCore, Vm.setStack, pad16_eq, Nat.not_le.mpr h1, Nat.not_le.mpr h0]

theorem pureStep_eq_map (op : Op) (s : List Nat) :
    pureStep op s = (Vm.stepCore { stack := s } op).map (·.stack) := by
  unfold pureStep
  cases Vm.stepCore { stack := s } op <;> rfl

/-! An assertion on any operands; its guarded rule, its step rule `rp_*_total` (below)
    and what a completed run learns from it (`Lemmas/U64Div.lean`) are read off these. -/

theorem ps_u32assert2_total (x0 x1 c : Nat) (r : List Nat) :
    pureStep (.u32assert2 c) (x0 :: x1 :: r)
      = if x0 ≥ two32 then .error (.notU32 x0 c) else if x1 ≥ two32 then .error (.notU32 x1 c)
        else .ok (x0 :: x1 :: r) := by
  rw [pureStep_eq_map]
  show Except.map _ (if x0 ≥ two32 then _ else if x1 ≥ two32 then _ else _) = _
  rw [Except.map_ite, Except.map_ite]
  rfl

theorem ps_assert_total (x0 c : Nat) (r : List Nat) :
    pureStep (.assert c) (x0 :: r) = if x0 = 1 then .ok (padN 16 r) else .error (.assertFailed c) := by
  rw [pureStep_eq_map]
  exact Except.map_ite _ _ _ _

theorem ps_u32assert2 (x0 x1 : Nat) (c : Nat) (r : List Nat) (h1 : x1 < two32) (h0 : x0 < two32) :
    pureStep (.u32assert2 c) (x0 :: x1 :: r) = .ok (x0 :: x1 :: r) := by
  rw [ps_u32assert2_total, if_neg (Nat.not_le.mpr h0), if_neg (Nat.not_le.mpr h1)]

theorem ps_not (x0 : Nat) (r : List Nat) (h0 : x0 ≤ 1) :
    pureStep .not (x0 :: r) = .ok ((1 - x0) :: r) := by
  simp [pureStep, Vm.stepCore, Vm.setStack, Nat.not_lt.mpr h0]

/-- `not` on the flag a comparison leaves: no side condition, and the result is the flag of the negated
    test. -/
theorem ps_not_ite (p : Prop) [Decidable p] (r : List Nat) :
    pureStep .not ((if p then 1 else 0) :: r) = .ok ((if p then 0 else 1) :: r) := by
  split <;> rfl

theorem ps_and (x0 x1 : Nat) (r : List Nat) (h1 : x1 ≤ 1) (h0 : x0 ≤ 1) :
    pureStep .and (x0 :: x1 :: r) = .ok (padN 16 ((if x1 = 1 ∧ x0 = 1 then 1 else 0) :: r)) := by
  simp [pureStep, Vm.stepCore, Vm.setStack, pad16_eq, Nat.not_lt.mpr h0, Nat.not_lt.mpr h1]

theorem ps_or (x0 x1 : Nat) (r : List Nat) (h1 : x1 ≤ 1) (h0 : x0 ≤ 1) :
    pureStep .or (x0 :: x1 :: r) = .ok (padN 16 ((if x1 = 1 ∨ x0 = 1 then 1 else 0) :: r)) := by
  simp [pureStep, Vm.stepCore, Vm.setStack, pad16_eq, Nat.not_lt.mpr h0, Nat.not_lt.mpr h1]

theorem ps_assert (x0 : Nat) (c : Nat) (r : List Nat) (h0 : x0 = 1) :
    pureStep (.assert c) (x0 :: r) = .ok (padN 16 r) :=
  (ps_assert_total x0 c r).trans (if_pos h0)

theorem ps_cswap0 (x0 x1 x2 : Nat) (r : List Nat) (h0 : x0 = 0) :
    pureStep .cswap (x0 :: x1 :: x2 :: r) = .ok (padN 16 (x1 :: x2 :: r)) := by
  simp [pureStep, Vm.stepCore, Vm.setStack, pad16_eq, h0]

theorem ps_cswap1 (x0 x1 x2 : Nat) (r : List Nat) (h0 : x0 = 1) :
    pureStep .cswap (x0 :: x1 :: x2 :: r) = .ok (padN 16 (x2 :: x1 :: r)) := by
  simp [pureStep, Vm.stepCore, Vm.setStack, pad16_eq, h0]

theorem ps_hperm (x0 x1 x2 x3 x4 x5 x6 x7 x8 x9 x10 x11 : Nat) (r : List Nat) :
    pureStep .hperm (x0 :: x1 :: x2 :: x3 :: x4 :: x5 :: x6 :: x7 :: x8 :: x9 :: x10 :: x11 :: r)
      = .ok ((Rpo.permute [x11, x10, x9, x8, x7, x6, x5, x4, x3, x2, x1, x0]).reverse ++ r) := by
  have hlt : ¬ (r.length + 1 + 1 + 1 + 1 + 1 + 1 + 1 + 1 + 1 + 1 + 1 + 1 < 12) := by omega
  simp [pureStep, Vm.stepCore, Vm.setStack, hlt]

theorem runPure_nil (s : List Nat) : runPure [] s = .ok s := rfl
theorem runPure_cons_ok {op : Op} {rest : List Op} {s s' : List Nat} (h : pureStep op s = .ok s') :
    runPure (op :: rest) s = runPure rest s' := by simp [runPure, h]
theorem runPure_cons (op : Op) (rest : List Op) (s : List Nat) :
    runPure (op :: rest) s = (pureStep op s).bind (runPure rest) := by
  simp only [runPure]
  cases pureStep op s <;> rfl

theorem runPure_append (a b : List Op) (s : List Nat) :
    runPure (a ++ b) s = (runPure a s).bind (runPure b) := by
  induction a generalizing s with
  | nil => rfl
  | cons op a ih =>
    rw [List.cons_append, runPure_cons, runPure_cons]
    cases pureStep op s with
    | error e => rfl
    | ok s' => exact ih s'

/-! The symbolic executor `simp only [pure_exec]`: `runPure_cons` splits off the first operation, its
    `ps_*` rule evaluates it, `Except.bind_ok_step` hands the new stack to the rest.
    Paddings are peeled off cell by cell and vanish where the stack below is known to be deep
    enough (`padN_of_le`, tried last).  `ps_assert`, `ps_u32assert2` are not in the set: what an
    assertion becomes depends on the proof (a condition learnt, `Lemmas/U64Div.lean`; a branch,
    `rp_*_total`), and the discharger would first try, at some cost, to prove that it passes. -/
attribute [pure_exec] runPure_cons Except.bind_ok_step runPure_nil padN_cons padN_zero
attribute [pure_exec low] padN_of_le
attribute [pure_exec] ps_sdepth ps_noop ps_dup0 ps_dup1 ps_dup2 ps_dup3 ps_dup4 ps_dup5 ps_dup6 ps_dup7 ps_dup9 ps_dup11
  ps_dup13 ps_dup15 ps_swap ps_swapw ps_swapw2 ps_swapw3 ps_swapdw ps_movup2 ps_movdn2 ps_movup3
  ps_movdn3 ps_movup4 ps_movdn4 ps_movup5 ps_movdn5 ps_movup6 ps_movdn6 ps_movup7 ps_movdn7
  ps_movup8 ps_movdn8 ps_pad ps_drop ps_push ps_add ps_mul ps_neg ps_incr ps_eq ps_eqz ps_u32split
  ps_u32add ps_u32add3 ps_u32sub ps_u32mul ps_u32madd ps_u32div ps_u32and ps_u32xor
  ps_not ps_and ps_or ps_cswap0 ps_cswap1

theorem rp_noop (r : List Nat) (rest : List Op) :
    runPure (.noop :: rest) (r) = runPure rest (r) :=
  runPure_cons_ok rfl

theorem rp_dup0 (x0 : Nat) (r : List Nat) (rest : List Op) :
    runPure (.dup0 :: rest) (x0 :: r) = runPure rest (x0 :: x0 :: r) :=
  runPure_cons_ok rfl

theorem rp_dup7 (x0 x1 x2 x3 x4 x5 x6 x7 : Nat) (r : List Nat) (rest : List Op) :
    runPure (.dup7 :: rest) (x0 :: x1 :: x2 :: x3 :: x4 :: x5 :: x6 :: x7 :: r) = runPure rest (x7 :: x0 :: x1 :: x2 :: x3 :: x4 :: x5 :: x6 :: x7 :: r) :=
  runPure_cons_ok rfl

theorem rp_dup9 (x0 x1 x2 x3 x4 x5 x6 x7 x8 x9 : Nat) (r : List Nat) (rest : List Op) :
    runPure (.dup9 :: rest) (x0 :: x1 :: x2 :: x3 :: x4 :: x5 :: x6 :: x7 :: x8 :: x9 :: r) = runPure rest (x9 :: x0 :: x1 :: x2 :: x3 :: x4 :: x5 :: x6 :: x7 :: x8 :: x9 :: r) :=
  runPure_cons_ok rfl

theorem rp_dup11 (x0 x1 x2 x3 x4 x5 x6 x7 x8 x9 x10 x11 : Nat) (r : List Nat) (rest : List Op) :
    runPure (.dup11 :: rest) (x0 :: x1 :: x2 :: x3 :: x4 :: x5 :: x6 :: x7 :: x8 :: x9 :: x10 :: x11 :: r) = runPure rest (x11 :: x0 :: x1 :: x2 :: x3 :: x4 :: x5 :: x6 :: x7 :: x8 :: x9 :: x10 :: x11 :: r) :=
  runPure_cons_ok rfl

theorem rp_dup13 (x0 x1 x2 x3 x4 x5 x6 x7 x8 x9 x10 x11 x12 x13 : Nat) (r : List Nat) (rest : List Op) :
    runPure (.dup13 :: rest) (x0 :: x1 :: x2 :: x3 :: x4 :: x5 :: x6 :: x7 :: x8 :: x9 :: x10 :: x11 :: x12 :: x13 :: r) = runPure rest (x13 :: x0 :: x1 :: x2 :: x3 :: x4 :: x5 :: x6 :: x7 :: x8 :: x9 :: x10 :: x11 :: x12 :: x13 :: r) :=
  runPure_cons_ok rfl

theorem rp_dup15 (x0 x1 x2 x3 x4 x5 x6 x7 x8 x9 x10 x11 x12 x13 x14 x15 : Nat) (r : List Nat) (rest : List Op) :
    runPure (.dup15 :: rest) (x0 :: x1 :: x2 :: x3 :: x4 :: x5 :: x6 :: x7 :: x8 :: x9 :: x10 :: x11 :: x12 :: x13 :: x14 :: x15 :: r) = runPure rest (x15 :: x0 :: x1 :: x2 :: x3 :: x4 :: x5 :: x6 :: x7 :: x8 :: x9 :: x10 :: x11 :: x12 :: x13 :: x14 :: x15 :: r) :=
  runPure_cons_ok rfl

theorem rp_swap (x0 x1 : Nat) (r : List Nat) (rest : List Op) :
    runPure (.swap :: rest) (x0 :: x1 :: r) = runPure rest (x1 :: x0 :: r) :=
  runPure_cons_ok rfl

theorem rp_movdn2 (x0 x1 x2 : Nat) (r : List Nat) (rest : List Op) :
    runPure (.movdn2 :: rest) (x0 :: x1 :: x2 :: r) = runPure rest (x1 :: x2 :: x0 :: r) :=
  runPure_cons_ok rfl

theorem rp_movup3 (x0 x1 x2 x3 : Nat) (r : List Nat) (rest : List Op) :
    runPure (.movup3 :: rest) (x0 :: x1 :: x2 :: x3 :: r) = runPure rest (x3 :: x0 :: x1 :: x2 :: r) :=
  runPure_cons_ok rfl

theorem rp_movdn6 (x0 x1 x2 x3 x4 x5 x6 : Nat) (r : List Nat) (rest : List Op) :
    runPure (.movdn6 :: rest) (x0 :: x1 :: x2 :: x3 :: x4 :: x5 :: x6 :: r) = runPure rest (x1 :: x2 :: x3 :: x4 :: x5 :: x6 :: x0 :: r) :=
  runPure_cons_ok rfl

theorem rp_movdn7 (x0 x1 x2 x3 x4 x5 x6 x7 : Nat) (r : List Nat) (rest : List Op) :
    runPure (.movdn7 :: rest) (x0 :: x1 :: x2 :: x3 :: x4 :: x5 :: x6 :: x7 :: r) = runPure rest (x1 :: x2 :: x3 :: x4 :: x5 :: x6 :: x7 :: x0 :: r) :=
  runPure_cons_ok rfl

theorem rp_pad (r : List Nat) (rest : List Op) :
    runPure (.pad :: rest) (r) = runPure rest (0 :: r) :=
  runPure_cons_ok rfl

theorem rp_drop (x0 : Nat) (r : List Nat) (rest : List Op) :
    runPure (.drop :: rest) (x0 :: r) = runPure rest (padN 16 r) :=
  runPure_cons_ok rfl

theorem rp_push (v : Nat) (r : List Nat) (rest : List Op) :
    runPure (.push v :: rest) r = runPure rest (v :: r) :=
  runPure_cons_ok rfl

theorem rp_add (x0 x1 : Nat) (r : List Nat) (rest : List Op) :
    runPure (.add :: rest) (x0 :: x1 :: r) = runPure rest (padN 16 (fadd x1 x0 :: r)) :=
  runPure_cons_ok rfl

theorem rp_mul (x0 x1 : Nat) (r : List Nat) (rest : List Op) :
    runPure (.mul :: rest) (x0 :: x1 :: r) = runPure rest (padN 16 (fmul x1 x0 :: r)) :=
  runPure_cons_ok rfl

theorem rp_neg (x0 : Nat) (r : List Nat) (rest : List Op) :
    runPure (.neg :: rest) (x0 :: r) = runPure rest (fneg x0 :: r) :=
  runPure_cons_ok rfl

theorem rp_incr (x0 : Nat) (r : List Nat) (rest : List Op) :
    runPure (.incr :: rest) (x0 :: r) = runPure rest (fadd x0 1 :: r) :=
  runPure_cons_ok rfl

theorem rp_eq (x0 x1 : Nat) (r : List Nat) (rest : List Op) :
    runPure (.eq :: rest) (x0 :: x1 :: r) = runPure rest (padN 16 ((if x1 = x0 then 1 else 0) :: r)) :=
  runPure_cons_ok rfl

theorem rp_eqz (x0 : Nat) (r : List Nat) (rest : List Op) :
    runPure (.eqz :: rest) (x0 :: r) = runPure rest ((if x0 = 0 then 1 else 0) :: r) :=
  runPure_cons_ok rfl

theorem rp_u32split (x0 : Nat) (r : List Nat) (rest : List Op) :
    runPure (.u32split :: rest) (x0 :: r) = runPure rest (splitHi x0 :: splitLo x0 :: r) :=
  runPure_cons_ok rfl

theorem rp_u32add (x0 x1 : Nat) (r : List Nat) (rest : List Op) :
    runPure (.u32add :: rest) (x0 :: x1 :: r) = runPure rest (splitHi (fadd x1 x0) :: splitLo (fadd x1 x0) :: r) :=
  runPure_cons_ok rfl

theorem rp_u32sub (x0 x1 : Nat) (r : List Nat) (rest : List Op) :
    runPure (.u32sub :: rest) (x0 :: x1 :: r) = runPure rest ((x1 + two64 - x0) % two64 / 2 ^ 63 :: (x1 + two64 - x0) % two64 % two32 :: r) :=
  runPure_cons_ok rfl

theorem rp_u32mul (x0 x1 : Nat) (r : List Nat) (rest : List Op) :
    runPure (.u32mul :: rest) (x0 :: x1 :: r) = runPure rest (splitHi (x1 * x0 % two64 % P) :: splitLo (x1 * x0 % two64 % P) :: r) :=
  runPure_cons_ok rfl

theorem rp_u32div (x0 x1 : Nat) (r : List Nat) (h0 : x0 ≠ 0) (rest : List Op) :
    runPure (.u32div :: rest) (x0 :: x1 :: r) = runPure rest (x1 % x0 :: x1 / x0 :: r) :=
  runPure_cons_ok (ps_u32div x0 x1 r h0)

theorem rp_not (x0 : Nat) (r : List Nat) (h0 : x0 ≤ 1) (rest : List Op) :
    runPure (.not :: rest) (x0 :: r) = runPure rest ((1 - x0) :: r) :=
  runPure_cons_ok (ps_not x0 r h0)

theorem rp_assert (x0 : Nat) (c : Nat) (r : List Nat) (h0 : x0 = 1) (rest : List Op) :
    runPure ((.assert c) :: rest) (x0 :: r) = runPure rest (padN 16 (r)) :=
  runPure_cons_ok (ps_assert x0 c r h0)

/-! Step rules for operations with a guard: the run branches as the operation does. -/

theorem rp_u32assert2_total (c b a : Nat) (r : List Nat) (rest : List Op) :
    runPure (.u32assert2 c :: rest) (b :: a :: r)
      = if b ≥ two32 then .error (.notU32 b c) else if a ≥ two32 then .error (.notU32 a c)
        else runPure rest (b :: a :: r) := by
  rw [runPure_cons, ps_u32assert2_total, Except.bind_ite, Except.bind_ite]
  rfl

theorem rp_assert_total (c a : Nat) (r : List Nat) (rest : List Op) :
    runPure (.assert c :: rest) (a :: r)
      = if a = 1 then runPure rest (padN 16 r) else .error (.assertFailed c) := by
  rw [runPure_cons, ps_assert_total, Except.bind_ite]
  rfl

theorem rp_cswap_total (c b a : Nat) (r : List Nat) (rest : List Op) :
    runPure (.cswap :: rest) (c :: b :: a :: r)
      = if c = 0 then runPure rest (padN 16 (b :: a :: r))
        else if c = 1 then runPure rest (padN 16 (a :: b :: r)) else .error (.notBinary c) := by
  rw [runPure_cons, pureStep_eq_map]
  show Except.bind (Except.map _ (if c = 0 then _ else if c = 1 then _ else _)) _ = _
  rw [Except.map_ite, Except.map_ite, Except.bind_ite, Except.bind_ite]
  rfl

theorem rp_not_total (a : Nat) (r : List Nat) (rest : List Op) :
    runPure (.not :: rest) (a :: r)
      = if a > 1 then .error (.notBinary a) else runPure rest ((1 - a) :: r) := by
  rw [runPure_cons, pureStep_eq_map]
  show Except.bind (Except.map _ (if a > 1 then _ else _)) _ = _
  rw [Except.map_ite, Except.bind_ite]
  rfl

theorem rp_inv_total (a : Nat) (r : List Nat) (rest : List Op) :
    runPure (.inv :: rest) (a :: r)
      = if a = 0 then .error .divZero else runPure rest (finv a :: r) := by
  rw [runPure_cons, pureStep_eq_map]
  show Except.bind (Except.map _ (if a = 0 then _ else _)) _ = _
  rw [Except.map_ite, Except.bind_ite]
  rfl

theorem rp_u32div_total (b a : Nat) (r : List Nat) (rest : List Op) :
    runPure (.u32div :: rest) (b :: a :: r)
      = if b = 0 then .error .divZero else runPure rest (a % b :: a / b :: r) := by
  rw [runPure_cons, pureStep_eq_map]
  show Except.bind (Except.map _ (if b = 0 then _ else _)) _ = _
  rw [Except.map_ite, Except.bind_ite]
  rfl

theorem rp_cswapw_total (c b0 b1 b2 b3 a0 a1 a2 a3 : Nat) (r : List Nat) (rest : List Op) :
    runPure (.cswapw :: rest) (c :: b0 :: b1 :: b2 :: b3 :: a0 :: a1 :: a2 :: a3 :: r)
      = if c = 0 then runPure rest (padN 16 (b0 :: b1 :: b2 :: b3 :: a0 :: a1 :: a2 :: a3 :: r))
        else if c = 1 then
          runPure rest (padN 16 (a0 :: a1 :: a2 :: a3 :: b0 :: b1 :: b2 :: b3 :: r))
        else .error (.notBinary c) := by
  rw [runPure_cons, pureStep_eq_map]
  show Except.bind (Except.map _ (if c = 0 then _ else if c = 1 then _ else _)) _ = _
  rw [Except.map_ite, Except.map_ite, Except.bind_ite, Except.bind_ite]
  rfl

end Miden
