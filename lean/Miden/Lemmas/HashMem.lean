/-
  `std::crypto::hashes::native::hash_memory_even` over the MAST regenerated from native.masm:
  symbolic execution of the prologue and the loop body on (stack, fmp, memory), the loop invariant
  with its step lemma, and the whole procedure as one `Completes` statement (its corollaries are in
  `Props/C17.lean`; the link from the sponge steps `hashEven` to `Rpo.hashElements` is in
  `Lemmas/PipeMem.lean`, through the sponge over a tape).
-/
import Miden.Lemmas.Forward
import Miden.Generated.StdlibSys
namespace Miden
namespace HashMem
open Generated Trunc

def proA : List Op := [Op.dup13, Op.dup13, Op.eq, Op.not]
def bodyB : List Op := [Op.mstream, Op.hperm, Op.dup13, Op.dup13, Op.eq, Op.not]

theorem shape : native_hash_memory_even = .join (.span proA) (.loop (.span bodyB)) := rfl
theorem factsA : SpanFacts Op.isMSimple proA proA := by decide
theorem factsB : SpanFacts Op.isMSimple bodyB bodyB := by decide

theorem eq12 {s : List Nat} (h : s.length = 12) :
    ∃ a0 a1 a2 a3 a4 a5 a6 a7 a8 a9 a10 a11, s = [a0, a1, a2, a3, a4, a5, a6, a7, a8, a9, a10, a11] := by
  obtain ⟨a0, a1, a2, a3, r1, rfl, h1⟩ := exists4 (n := 8) (Nat.le_of_eq h.symm)
  obtain ⟨a4, a5, a6, a7, r2, rfl, h2⟩ := exists4 (n := 4) h1
  obtain ⟨a8, a9, a10, a11, r3, rfl, -⟩ := exists4 (n := 0) h2
  obtain rfl : r3 = [] := List.eq_nil_of_length_eq_zero (by simpa using h)
  exact ⟨_, _, _, _, _, _, _, _, _, _, _, _, rfl⟩

/-- One sponge step of the RPO hasher in overwrite mode: the rate is replaced by the two words at
    `a`, `a + 1`, then the permutation is applied (`v` in natural order: capacity, rate). -/
def absorb (ctx : Nat) (m : Mem) (v : List Nat) (a : Nat) : List Nat :=
  Rpo.permute (v.take 4 ++ (m.read ctx a).toList ++ (m.read ctx (a + 1)).toList)

def hashEven (ctx : Nat) (m : Mem) : Nat → Nat → List Nat → List Nat
  | 0, _, v => v
  | k + 1, a, v => hashEven ctx m k (a + 2) (absorb ctx m v a)

theorem absorb_len (ctx : Nat) (m : Mem) (v : List Nat) (a : Nat) : (absorb ctx m v a).length = 12 :=
  Vm.permute_len _

/-- The field elements of `K` double words of memory starting at `a`, in address order. -/
def memEls (ctx : Nat) (m : Mem) : Nat → Nat → List Nat
  | _, 0 => []
  | a, k + 1 => (m.read ctx a).toList ++ (m.read ctx (a + 1)).toList ++ memEls ctx m (a + 2) k

theorem memEls_len (ctx : Nat) (m : Mem) : ∀ (K a : Nat), (memEls ctx m a K).length = 8 * K
  | 0, _ => rfl
  | K + 1, a => by
    simp only [memEls, List.length_append, memEls_len ctx m K (a + 2), Word.toList, List.length_cons, List.length_nil]
    omega

theorem hashEven_step (ctx : Nat) (m : Mem) (i a : Nat) (v : List Nat) :
    hashEven ctx m (i + 1) a v = hashEven ctx m i (a + 2) (absorb ctx m v a) := by
  rw [hashEven]

theorem hashEven_len (ctx : Nat) (m : Mem) : ∀ (k a : Nat) (v : List Nat), v.length = 12 → (hashEven ctx m k a v).length = 12
  | 0, _, _, h => h
  | k + 1, a, v, _ => hashEven_len ctx m k (a + 2) _ (absorb_len ctx m v a)

theorem hashEven_succ (ctx : Nat) (m : Mem) (i : Nat) : ∀ (a : Nat) (v : List Nat),
    hashEven ctx m (i + 1) a v = absorb ctx m (hashEven ctx m i a v) (a + 2 * i) := by
  induction i with
  | zero => intro a v; rw [hashEven_step, hashEven, hashEven, Nat.mul_zero, Nat.add_zero]
  | succ i ih =>
    intro a v
    rw [hashEven_step, ih (a + 2) (absorb ctx m v a), hashEven_step ctx m i a v]
    have e : a + 2 + 2 * i = a + 2 * (i + 1) := by omega
    rw [e]

/-- The prologue, and the end of both loop bodies: compare the pointers below the hasher state `v` (natural
    order: capacity, rate; the stack holds it reversed).  `1 ≤ rest.length`: the twelve state cells, the two
    pointers and `rest` make sixteen at least with the flag on top, so no padding is involved. -/
theorem proA_run {ctx a e : Nat} {v rest : List Nat} {f : Nat} {m : Mem} (hv : v.length = 12)
    (hrest : 1 ≤ rest.length) :
    runM ctx proA ⟨v.reverse ++ a :: e :: rest, f, m⟩
      = .ok ⟨(if e = a then 0 else 1) :: v.reverse ++ a :: e :: rest, f, m⟩ := by
  obtain ⟨v0, v1, v2, v3, v4, v5, v6, v7, v8, v9, v10, v11, rfl⟩ := eq12 hv
  simp (disch := decide) only [sym_exec, proA, padN_of_le hrest, List.reverse_cons,
    List.reverse_nil, List.nil_append, List.cons_append]

/-- What follows `mstream` (here) and `pipe` (`Lemmas/PipeMem.lean`) in the loop body: permute, compare
    the pointers. -/
theorem tail_run {ctx z0 z1 z2 z3 z4 z5 z6 z7 z8 z9 z10 z11 a e : Nat} {rest : List Nat} {f : Nat} {m : Mem}
    (hrest : 1 ≤ rest.length) :
    runM ctx [Op.hperm, Op.dup13, Op.dup13, Op.eq, Op.not]
      ⟨z0 :: z1 :: z2 :: z3 :: z4 :: z5 :: z6 :: z7 :: z8 :: z9 :: z10 :: z11 :: a :: e :: rest, f, m⟩
      = .ok ⟨(if e = a then 0 else 1)
              :: (Rpo.permute [z11, z10, z9, z8, z7, z6, z5, z4, z3, z2, z1, z0]).reverse ++ a :: e :: rest, f, m⟩ := by
  rw [rm_pure (by decide), ps_hperm, Except.bind_ok_step]
  exact proA_run (Vm.permute_len _) hrest

theorem bodyB_run {ctx a e : Nat} {v rest : List Nat} {f : Nat} {m : Mem} (hv : v.length = 12)
    (ha : a + 1 ≤ u32max) (hrest : 1 ≤ rest.length) :
    runM ctx bodyB ⟨v.reverse ++ a :: e :: rest, f, m⟩
      = .ok ⟨(if e = a + 2 then 0 else 1) :: (absorb ctx m v a).reverse ++ (a + 2) :: e :: rest, f, m⟩ := by
  obtain ⟨v0, v1, v2, v3, v4, v5, v6, v7, v8, v9, v10, v11, rfl⟩ := eq12 hv
  exact (rm_mstream ha).trans (tail_run hrest)

def J (ctx start e : Nat) (rest : List Nat) (f0 : Nat) (m0 : Mem) (v0 : List Nat) (K : Nat)
    (k : Nat) (t : List Nat) (f : Nat) (m : Mem) : Prop :=
  ∃ i, t = (hashEven ctx m0 i start v0).reverse ++ (start + 2 * i) :: e :: rest ∧ i + k = K ∧ f = f0 ∧ m = m0

theorem hash_hstep {ctx start K : Nat} {rest : List Nat} {f0 : Nat} {m0 : Mem} {v0 : List Nat} (hv0 : v0.length = 12)
    (hrest : 2 ≤ rest.length) (he : start + 2 * K ≤ 4294967296) :
    let e := start + 2 * K
    ∀ k t f m, J ctx start e rest f0 m0 v0 K (k + 1) t f m → ∃ c t' f' m',
      runM ctx bodyB ⟨t, f, m⟩ = .ok ⟨c :: t', f', m'⟩ ∧
      J ctx start e rest f0 m0 v0 K k t' f' m' ∧ (c = 1 ↔ k ≠ 0) ∧ (c = 0 ↔ k = 0) := by
  intro e k t f m ⟨i, ht, hik, hf, hmm⟩
  subst ht hmm hf
  have ha : start + 2 * i + 1 ≤ u32max := by
    simp only [u32max]
    omega
  refine ⟨_, _, _, _, bodyB_run (hashEven_len ctx m i start v0 hv0) ha (by omega),
    ⟨i + 1, ?_, by omega, rfl, rfl⟩, flag_iff (by omega)⟩
  rw [hashEven_succ]
  -- `start + 2 * i + 2` and `start + 2 * (i + 1)` agree by computation
  rfl

theorem hash_memory_even_completes {C : Nat} {v : List Nat} {start K : Nat} {rest : List Nat} {f : Nat}
    {m : Mem} {a : List Nat} (hv : v.length = 12) (hrest : 2 ≤ rest.length)
    (he : start + 2 * K ≤ 4294967296) :
    Completes C native_hash_memory_even ⟨v.reverse ++ start :: (start + 2 * K) :: rest, f, m, a⟩
      ⟨(hashEven C m K start v).reverse ++ (start + 2 * K) :: (start + 2 * K) :: rest, f, m, a⟩
      (9 * K + 12) (K + 3) := by
  obtain ⟨t', f', m', ⟨i, ht, hik, hf', hm'⟩, hloop⟩ :=
    Completes.loopM (C := C) factsB (J C start (start + 2 * K) rest f m v K)
      (fun k t f' m' ⟨i, ht, _⟩ => by
        rw [ht]
        simp only [List.length_append, List.length_reverse, List.length_cons, hashEven_len C m i start v hv]
        omega)
      (hash_hstep hv hrest he) a
      (k := K) (t := v.reverse ++ start :: (start + 2 * K) :: rest) ⟨0, rfl, by omega, rfl, rfl⟩
      (flag_iff (p := start + 2 * K = start) (by omega))
  have hi : i = K := by omega
  subst t' f' m' i
  rw [shape]
  refine ((Completes.spanM factsA (proA_run hv (by omega))).join hloop).mono ?_ ?_
  · simp only [proA, bodyB, List.length_cons, List.length_nil]
    omega
  · omega

end HashMem
end Miden
