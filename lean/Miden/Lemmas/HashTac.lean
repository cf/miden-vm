/-
  Helper lemmas for the refinement theorems about the SHA-256 helper procedures of the standard
  library: 32-bit rotations / shifts as the VM computes them (multiply by a power of two, add the
  two 32-bit halves of the product) equal the integer definitions of `Spec/Hashes.lean`.
-/
import Miden.Lemmas.Pure
import Miden.Lemmas.U32Arith
import Miden.Spec.Hashes
import Miden.Generated.StdlibHash
namespace Miden
open Spec.H

/-- `u32rotr.k` as compiled: `push 2^(32-k); u32mul; add` — the sum of the two halves of `x·2^(32-k)`. -/
def rotVia (x m : Nat) : Nat :=
  fadd (splitLo (x * m % two64 % P)) (splitHi (x * m % two64 % P))

theorem rotVia_eq (x k : Nat) (hx : x < two32) (hk : k ≤ 32) :
    rotVia x (2 ^ (32 - k)) = rotr32 x k := by
  unfold rotVia rotr32
  rw [rot_halves hx (Nat.sub_le 32 k), Nat.sub_sub_self hk, two32, ← two_pow_mul_two_pow_sub hk,
    Nat.mul_mod_mul_right, Nat.add_comm]

theorem rotr32_lt (x k : Nat) (hx : x < two32) (hk : k ≤ 32) : rotr32 x k < two32 := by
  have hpow := two_pow_mul_two_pow_sub hk
  have hkpos : 0 < 2 ^ k := Nat.pow_pos (by omega)
  have hmpos : 0 < 2 ^ (32 - k) := Nat.pow_pos (by omega)
  unfold rotr32 two32 at *
  have h1 : x / 2 ^ k < 2 ^ (32 - k) := by
    rw [Nat.div_lt_iff_lt_mul hkpos, Nat.mul_comm, hpow]
    exact hx
  have h2 : x % 2 ^ k < 2 ^ k := Nat.mod_lt _ hkpos
  have h3 : (x % 2 ^ k + 1) * 2 ^ (32 - k) ≤ 2 ^ k * 2 ^ (32 - k) := Nat.mul_le_mul_right _ h2
  rw [Nat.add_mul, Nat.one_mul, hpow] at h3
  omega

/-! Fused rules for the operation sequences that `u32rotr.k`, `u32shr.k` and `u32not` compile to
    (higher priority than the per-operation rules, so the symbolic executor never exposes the
    intermediate products). -/

theorem rp_rotr_gen (x k : Nat) (r : List Nat) (rest : List Op) (hx : x < two32) (hk : k ≤ 32) :
    runPure (Op.push (2 ^ (32 - k)) :: Op.u32mul :: Op.add :: rest) (x :: r)
      = runPure rest (rotr32 x k :: padN 15 r) := by
  have h := rotVia_eq x k hx hk
  unfold rotVia at h
  rw [rp_push, rp_u32mul, rp_add, h, padN_cons]

-- One rule per shift amount the SHA-256 procedures use: `simp` matches the pushed numeral, not `2 ^ (32 - k)`.
@[pure_exec high] theorem rp_rotr7 (x : Nat) (r : List Nat) (rest : List Op) (hx : x < two32) :
    runPure (Op.push 33554432 :: Op.u32mul :: Op.add :: rest) (x :: r) = runPure rest (rotr32 x 7 :: padN 15 r) :=
  rp_rotr_gen x 7 r rest hx (by decide)
@[pure_exec high] theorem rp_rotr18 (x : Nat) (r : List Nat) (rest : List Op) (hx : x < two32) :
    runPure (Op.push 16384 :: Op.u32mul :: Op.add :: rest) (x :: r) = runPure rest (rotr32 x 18 :: padN 15 r) :=
  rp_rotr_gen x 18 r rest hx (by decide)
@[pure_exec high] theorem rp_rotr17 (x : Nat) (r : List Nat) (rest : List Op) (hx : x < two32) :
    runPure (Op.push 32768 :: Op.u32mul :: Op.add :: rest) (x :: r) = runPure rest (rotr32 x 17 :: padN 15 r) :=
  rp_rotr_gen x 17 r rest hx (by decide)
@[pure_exec high] theorem rp_rotr19 (x : Nat) (r : List Nat) (rest : List Op) (hx : x < two32) :
    runPure (Op.push 8192 :: Op.u32mul :: Op.add :: rest) (x :: r) = runPure rest (rotr32 x 19 :: padN 15 r) :=
  rp_rotr_gen x 19 r rest hx (by decide)
@[pure_exec high] theorem rp_rotr2 (x : Nat) (r : List Nat) (rest : List Op) (hx : x < two32) :
    runPure (Op.push 1073741824 :: Op.u32mul :: Op.add :: rest) (x :: r) = runPure rest (rotr32 x 2 :: padN 15 r) :=
  rp_rotr_gen x 2 r rest hx (by decide)
@[pure_exec high] theorem rp_rotr13 (x : Nat) (r : List Nat) (rest : List Op) (hx : x < two32) :
    runPure (Op.push 524288 :: Op.u32mul :: Op.add :: rest) (x :: r) = runPure rest (rotr32 x 13 :: padN 15 r) :=
  rp_rotr_gen x 13 r rest hx (by decide)
@[pure_exec high] theorem rp_rotr22 (x : Nat) (r : List Nat) (rest : List Op) (hx : x < two32) :
    runPure (Op.push 1024 :: Op.u32mul :: Op.add :: rest) (x :: r) = runPure rest (rotr32 x 22 :: padN 15 r) :=
  rp_rotr_gen x 22 r rest hx (by decide)
@[pure_exec high] theorem rp_rotr6 (x : Nat) (r : List Nat) (rest : List Op) (hx : x < two32) :
    runPure (Op.push 67108864 :: Op.u32mul :: Op.add :: rest) (x :: r) = runPure rest (rotr32 x 6 :: padN 15 r) :=
  rp_rotr_gen x 6 r rest hx (by decide)
@[pure_exec high] theorem rp_rotr11 (x : Nat) (r : List Nat) (rest : List Op) (hx : x < two32) :
    runPure (Op.push 2097152 :: Op.u32mul :: Op.add :: rest) (x :: r) = runPure rest (rotr32 x 11 :: padN 15 r) :=
  rp_rotr_gen x 11 r rest hx (by decide)
@[pure_exec high] theorem rp_rotr25 (x : Nat) (r : List Nat) (rest : List Op) (hx : x < two32) :
    runPure (Op.push 128 :: Op.u32mul :: Op.add :: rest) (x :: r) = runPure rest (rotr32 x 25 :: padN 15 r) :=
  rp_rotr_gen x 25 r rest hx (by decide)

/-- `u32shr.k` as compiled: `push 2^k; u32div; drop`. -/
theorem rp_shr_gen (x c : Nat) (r : List Nat) (rest : List Op) (hc : c ≠ 0) :
    runPure (Op.push c :: Op.u32div :: Op.drop :: rest) (x :: r) = runPure rest (x / c :: padN 15 r) := by
  rw [rp_push, rp_u32div _ _ _ hc, rp_drop, padN_cons]

@[pure_exec high] theorem rp_shr3 (x : Nat) (r : List Nat) (rest : List Op) :
    runPure (Op.push 8 :: Op.u32div :: Op.drop :: rest) (x :: r) = runPure rest (x / 2 ^ 3 :: padN 15 r) :=
  rp_shr_gen x 8 r rest (by decide)
@[pure_exec high] theorem rp_shr10 (x : Nat) (r : List Nat) (rest : List Op) :
    runPure (Op.push 1024 :: Op.u32div :: Op.drop :: rest) (x :: r) = runPure rest (x / 2 ^ 10 :: padN 15 r) :=
  rp_shr_gen x 1024 r rest (by decide)

/-- `u32not` as compiled: `push (2^32-1); u32assert2; swap; u32sub; drop`. -/
@[pure_exec high] theorem rp_not32 (x c : Nat) (r : List Nat) (rest : List Op) (hx : x < two32) :
    runPure (Op.push 4294967295 :: Op.u32assert2 c :: Op.swap :: Op.u32sub :: Op.drop :: rest) (x :: r)
      = runPure rest (not32 x :: padN 15 r) := by
  rw [rp_push, runPure_cons, ps_u32assert2 _ _ _ _ hx (by decide), Except.bind_ok_step, rp_swap, rp_u32sub, rp_drop,
    padN_cons]
  congr 2
  simp only [not32, two64, two32] at *
  omega

/-! `Nat.xor_assoc`, `Nat.and_comm` for terms spelt `Nat.xor`, `Nat.land`, as the model has them. -/
theorem xor_assoc_nat (a b c : Nat) : Nat.xor (Nat.xor a b) c = Nat.xor a (Nat.xor b c) := Nat.xor_assoc a b c
theorem land_comm_nat (a b : Nat) : Nat.land a b = Nat.land b a := Nat.and_comm a b

theorem xor_lt_two32 (a b : Nat) (ha : a < two32) (hb : b < two32) : Nat.xor a b < two32 := by
  have := @Nat.xor_lt_two_pow a b 32 (by simpa [two32] using ha) (by simpa [two32] using hb)
  simpa [two32] using this

theorem land_lt_two32 (a b : Nat) (ha : a < two32) : Nat.land a b < two32 :=
  Nat.lt_of_le_of_lt Nat.and_le_left ha

theorem land_lt_two32' (a b : Nat) (hb : b < two32) : Nat.land a b < two32 :=
  Nat.lt_of_le_of_lt Nat.and_le_right hb

theorem not32_lt (x : Nat) : not32 x < two32 := by
  simp only [not32, two32]
  omega

theorem div_lt_two32 (x c : Nat) (hx : x < two32) : x / c < two32 :=
  Nat.lt_of_le_of_lt (Nat.div_le_self _ _) hx

/-- The bounds of rotations, xors, ands, complements and shifts join those of `u32b`. -/
macro_rules
  | `(tactic| u32b) => `(tactic| first
    | exact not32_lt _
    | (apply rotr32_lt <;> u32b)
    | (apply xor_lt_two32 <;> u32b)
    | (apply land_lt_two32; u32b)
    | (apply land_lt_two32'; u32b)
    | (apply div_lt_two32; u32b))

/-- Symbolic execution of a straight-line stack-only procedure on an explicit stack. -/
macro "pure_exec" ops:ident : tactic => `(tactic| (
  simp (disch := u32b) only [$ops:ident, pure_exec, *]))

end Miden
