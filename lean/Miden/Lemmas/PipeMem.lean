/-
  `std::mem::pipe_double_words_to_memory` over the MAST regenerated from mem.masm, on the advice view:
  the whole procedure for every number of double words, as one `Completes` statement when the tape is
  long enough, and by inversion (`loop_rule_a`) that a completed run found its `8K` elements on
  whatever tape it had; the link from the sponge state over a tape to `Rpo.hashElements`, and from
  there the same for the sponge over memory (`hashEven` is `pipeState` over the memory's elements).
-/
import Miden.Lemmas.HashMem
namespace Miden
namespace PipeMem
open Generated Trunc Vm

def bodyP : List Op := [Op.pipe, Op.hperm, Op.dup13, Op.dup13, Op.eq, Op.not]
def epiP : List Op := [Op.swapdw, Op.movup5, Op.swapdw, Op.movup8, Op.drop]

theorem shape : mem_pipe_double_words_to_memory
    = .join (.join (.span HashMem.proA) (.loop (.span bodyP))) (.span epiP) := rfl
theorem factsP : SpanFacts Op.isASimple bodyP bodyP := by decide
theorem factsE : SpanFacts Op.isMSimple epiP epiP := by decide

/-- Hasher state after absorbing `k` double words of the tape (overwrite mode). -/
def pipeState : Nat → List Nat → List Nat → List Nat
  | 0, v, _ => v
  | k + 1, v, tape => pipeState k (Rpo.permute (v.take 4 ++ tape.take 8)) (tape.drop 8)

theorem pipeState_len : ∀ (k : Nat) (v tape : List Nat), v.length = 12 → (pipeState k v tape).length = 12
  | 0, _, _, h => h
  | k + 1, _, _, _ => pipeState_len k _ _ (Vm.permute_len _)

theorem pipeState_step (k : Nat) (v tape : List Nat) :
    pipeState (k + 1) v tape = pipeState k (Rpo.permute (v.take 4 ++ tape.take 8)) (tape.drop 8) := by
  rw [pipeState]

theorem pipeState_succ (i : Nat) : ∀ (v tape : List Nat),
    pipeState (i + 1) v tape = Rpo.permute ((pipeState i v tape).take 4 ++ (tape.drop (8 * i)).take 8) := by
  induction i with
  | zero => intro v tape; rw [pipeState_step, pipeState, pipeState]; simp
  | succ i ih =>
    intro v tape
    rw [pipeState_step, ih, pipeState_step i v tape, List.drop_drop]
    have e : 8 + 8 * i = 8 * (i + 1) := by omega
    rw [e]

theorem absorb_tape : ∀ (K : Nat) (st tape : List Nat) (fuel : Nat), K < fuel → 8 * K ≤ tape.length →
    Rpo.absorb fuel st (tape.take (8 * K)) = pipeState K st tape
  | 0, st, tape, fuel + 1, _, _ => by simp [Rpo.absorb, pipeState]
  | K + 1, st, tape, fuel + 1, h, hl => by
    have hlen : (tape.take (8 * (K + 1))).length ≥ 8 := by
      rw [List.length_take]
      omega
    have e1 : (tape.take (8 * (K + 1))).take 8 = tape.take 8 := by
      rw [List.take_take]
      congr 1
    have e2 : (tape.take (8 * (K + 1))).drop 8 = (tape.drop 8).take (8 * K) := by
      rw [List.drop_take]
      congr 1
    rw [Rpo.absorb, if_pos hlen, e1, e2, pipeState_step]
    exact absorb_tape K _ _ fuel (by omega) (by rw [List.length_drop]; omega)

/-- From the all-zero sponge state, the digest of the piped state is `Rpo256::hash_elements` of the
    `8K` consumed tape elements. -/
theorem pipeState_is_hashElements (K : Nat) (tape : List Nat) (hl : 8 * K ≤ tape.length) :
    Rpo.digestOf (pipeState K (List.replicate 12 0) tape) = Rpo.hashElements (tape.take (8 * K)) := by
  have hlen : (tape.take (8 * K)).length = 8 * K := by
    rw [List.length_take]
    omega
  have h8 : (tape.take (8 * K)).length % 8 = 0 := by
    rw [hlen]
    omega
  simp only [Rpo.hashElements, h8, if_true]
  rw [absorb_tape K _ tape _ (by rw [hlen]; omega) hl]
  rfl

/-- Memory after `k` double words of the tape were written from address `a` upwards. -/
def pipeMem (ctx : Nat) : Nat → Nat → Mem → List Nat → Mem
  | 0, _, m, _ => m
  | k + 1, a, m, tape =>
    pipeMem ctx k (a + 2)
      ((m.write ctx a (Word.ofList (tape.take 4))).write ctx (a + 1) (Word.ofList ((tape.drop 4).take 4))) (tape.drop 8)

theorem pipeMem_step (ctx k a : Nat) (m : Mem) (tape : List Nat) :
    pipeMem ctx (k + 1) a m tape = pipeMem ctx k (a + 2)
      ((m.write ctx a (Word.ofList (tape.take 4))).write ctx (a + 1) (Word.ofList ((tape.drop 4).take 4))) (tape.drop 8) := by
  rw [pipeMem]

theorem pipeMem_succ (ctx : Nat) (i : Nat) : ∀ (a : Nat) (m : Mem) (tape : List Nat),
    pipeMem ctx (i + 1) a m tape =
      ((pipeMem ctx i a m tape).write ctx (a + 2 * i) (Word.ofList ((tape.drop (8 * i)).take 4))).write ctx (a + 2 * i + 1)
        (Word.ofList ((tape.drop (8 * i + 4)).take 4)) := by
  induction i with
  | zero => intro a m tape; rw [pipeMem_step, pipeMem, pipeMem]; simp
  | succ i ih =>
    intro a m tape
    rw [pipeMem_step, ih, pipeMem_step ctx i a m tape, List.drop_drop, List.drop_drop]
    have e1 : 8 + 8 * i = 8 * (i + 1) := by omega
    have e2 : 8 + (8 * i + 4) = 8 * (i + 1) + 4 := by omega
    have e3 : a + 2 + 2 * i = a + 2 * (i + 1) := by omega
    rw [e1, e2, e3]

/-- One iteration of the piping loop completes exactly when eight elements are on the tape; it writes
    them to `a`, `a + 1`, absorbs them and compares the pointers. -/
theorem bodyP_ok_iff {ctx a e : Nat} {v rest : List Nat} {f : Nat} {m : Mem} {adv : List Nat} {st : ASt}
    (hv : v.length = 12) (ha : a + 1 ≤ u32max) (hrest : 1 ≤ rest.length) :
    runA ctx bodyP ⟨v.reverse ++ a :: e :: rest, f, m, adv⟩ = .ok st ↔ 8 ≤ adv.length ∧
      st = ⟨(if e = a + 2 then 0 else 1)
              :: (Rpo.permute (v.take 4 ++ adv.take 8)).reverse ++ (a + 2) :: e :: rest, f,
            (m.write ctx a (Word.ofList (adv.take 4))).write ctx (a + 1) (Word.ofList ((adv.drop 4).take 4)),
            adv.drop 8⟩ := by
  obtain ⟨v0, v1, v2, v3, v4, v5, v6, v7, v8, v9, v10, v11, rfl⟩ := HashMem.eq12 hv
  constructor
  · intro h
    obtain ⟨t0, t1, t2, t3, t4, t5, t6, t7, adv', rfl, h'⟩ := pipe_inv ha adv h
    rw [runA_m (by decide), HashMem.tail_run hrest] at h'
    exact ⟨by simp, (Except.ok.inj h').symm⟩
  · rintro ⟨h8, rfl⟩
    obtain ⟨t0, t1, t2, t3, t4, t5, t6, t7, adv', rfl⟩ := exists8 h8
    refine (ra_pipe ha).trans ?_
    rw [runA_m (by decide), HashMem.tail_run hrest]
    rfl

theorem epiP_run {ctx w e r0 r1 : Nat} {v rest : List Nat} {f : Nat} {m : Mem} (hv : v.length = 12) :
    runM ctx epiP ⟨v.reverse ++ w :: e :: r0 :: r1 :: rest, f, m⟩
      = .ok ⟨padN 16 (v.reverse ++ w :: r0 :: r1 :: rest), f, m⟩ := by
  obtain ⟨v0, v1, v2, v3, v4, v5, v6, v7, v8, v9, v10, v11, rfl⟩ := HashMem.eq12 hv
  simp (disch := decide) only [sym_exec, epiP, List.reverse_cons, List.reverse_nil, List.nil_append, List.cons_append]

/-- State below the loop condition when `k` double words remain to be piped. -/
def J (ctx start e : Nat) (rest : List Nat) (f0 : Nat) (m0 : Mem) (v0 adv0 : List Nat) (K : Nat)
    (k : Nat) (t : List Nat) (f : Nat) (m : Mem) (a : List Nat) : Prop :=
  ∃ i, i + k = K ∧ 8 * i ≤ adv0.length ∧ a = adv0.drop (8 * i) ∧
    t = (pipeState i v0 adv0).reverse ++ (start + 2 * i) :: e :: rest ∧ f = f0 ∧ m = pipeMem ctx i start m0 adv0

theorem J_len {ctx start e : Nat} {rest : List Nat} {f0 : Nat} {m0 : Mem} {v0 adv0 : List Nat} {K k : Nat}
    {t : List Nat} {f : Nat} {m : Mem} {a : List Nat} (hv0 : v0.length = 12) (hrest : 2 ≤ rest.length)
    (h : J ctx start e rest f0 m0 v0 adv0 K k t f m a) : 16 ≤ t.length := by
  obtain ⟨i, _, _, _, ht, _⟩ := h
  rw [ht]
  simp only [List.length_append, List.length_reverse, List.length_cons, pipeState_len i v0 adv0 hv0]
  omega

theorem J_init {ctx start e : Nat} {rest : List Nat} {f : Nat} {m : Mem} {v adv : List Nat} {K : Nat} :
    J ctx start e rest f m v adv K K (v.reverse ++ start :: e :: rest) f m adv :=
  ⟨0, by omega, by omega, rfl, rfl, rfl, rfl⟩

theorem pipe_hstep {ctx start K : Nat} {rest : List Nat} {f0 : Nat} {m0 : Mem} {v0 adv0 : List Nat} (hv0 : v0.length = 12)
    (hrest : 2 ≤ rest.length) (he : start + 2 * K ≤ 4294967296) :
    let e := start + 2 * K
    ∀ k t f m a st, J ctx start e rest f0 m0 v0 adv0 K (k + 1) t f m a →
      runA ctx bodyP ⟨t, f, m, a⟩ = .ok st →
      ∃ c t', st.stack = c :: t' ∧ J ctx start e rest f0 m0 v0 adv0 K k t' st.fmp st.mem st.adv ∧
        (c = 1 ↔ k ≠ 0) ∧ (c = 0 ↔ k = 0) := by
  intro e k t f m a st ⟨i, hik, hil, ha, ht, hf, hmm⟩ hrun
  subst ht ha hmm
  have haddr : start + 2 * i + 1 ≤ u32max := by
    simp only [u32max]
    omega
  obtain ⟨h8, rfl⟩ := (bodyP_ok_iff (pipeState_len i v0 adv0 hv0) haddr (by omega)).mp hrun
  rw [List.length_drop] at h8
  refine ⟨_, _, rfl, ⟨i + 1, by omega, by omega, ?_, ?_, hf, ?_⟩, flag_iff (by omega)⟩
  -- what is left holds by computation: `n * (i + 1)` unfolds to `n * i + n`
  · exact List.drop_drop
  · rw [pipeState_succ]
    rfl
  · rw [pipeMem_succ, ← List.drop_drop]

/-- A completed run found `8K` elements on the tape: by inversion, up to the end of the loop. -/
theorem pipe_found_tape (env : Env) (fuel : Nat) (vm vm' : Vm) (v : List Nat) (start K : Nat)
    (rest : List Nat) (hv : v.length = 12)
    (hs : vm.stack = v.reverse ++ start :: (start + 2 * K) :: rest) (hrest : 2 ≤ rest.length)
    (he : start + 2 * K ≤ 4294967296)
    (h : Vm.exec env fuel mem_pipe_double_words_to_memory vm = .ok vm') : 8 * K ≤ vm.adv.length := by
  rw [shape] at h
  have hd : DA vm _ vm.fmp vm.mem vm.adv vm.ctx := ⟨hs, rfl, rfl, rfl, rfl⟩
  obtain ⟨fuel, rfl⟩ := exec_succ h
  obtain ⟨w1, w2, w3, hj1, hj2, _, _⟩ := exec_join_ok.mp h
  obtain ⟨fuel, rfl⟩ := exec_succ hj2
  obtain ⟨v1, v2, v3, hk1, hk2, hk3, _⟩ := exec_join_ok.mp hj2
  obtain ⟨st, hst, hd2⟩ := exec_span_DA HashMem.factsA.toA hk2 (execRow_noop_DA hk1 (execRow_noop_DA hj1 hd))
  rw [runA_m HashMem.factsA.2.2, HashMem.proA_run hv (by omega)] at hst
  cases hst
  obtain ⟨_, _, _, _, _, i, hik, hil, _⟩ :=
    loop_rule_a env bodyP factsP.2.1 factsP.all_rows vm.ctx
      (J vm.ctx start (start + 2 * K) rest vm.fmp vm.mem v vm.adv K)
      (fun k t f m a => J_len hv hrest)
      (fun k t f m a st hj hr => pipe_hstep hv hrest he k t f m a st hj
        (factsP.1 ▸ hr))
      K fuel v2 v3 _ _ _ _ _ hd2 J_init
      (flag_iff (p := start + 2 * K = start) (by omega)).1 (flag_iff (p := start + 2 * K = start) (by omega)).2 hk3
  have hi : i = K := by omega
  rw [← hi]
  exact hil

theorem pipe_hstep_fwd {C start K : Nat} {rest : List Nat} {f0 : Nat} {m0 : Mem} {v0 adv0 : List Nat}
    (hv0 : v0.length = 12) (hrest : 2 ≤ rest.length) (he : start + 2 * K ≤ 4294967296)
    (htape : 8 * K ≤ adv0.length) (k : Nat) (s : ASt)
    (hj : J C start (start + 2 * K) rest f0 m0 v0 adv0 K (k + 1) s.stack s.fmp s.mem s.adv) :
    ∃ (c : Nat) (s' : ASt), runA C bodyP s = .ok { s' with stack := c :: s'.stack } ∧
      J C start (start + 2 * K) rest f0 m0 v0 adv0 K k s'.stack s'.fmp s'.mem s'.adv ∧
      (c = 1 ↔ k ≠ 0) ∧ (c = 0 ↔ k = 0) := by
  obtain ⟨t, f, m, a⟩ := s
  obtain ⟨st, hst⟩ : ∃ st, runA C bodyP ⟨t, f, m, a⟩ = .ok st := by
    obtain ⟨i, hik, hil, rfl, rfl, -⟩ := hj
    exact ⟨_, (bodyP_ok_iff (pipeState_len i v0 adv0 hv0) (by simp only [u32max]; omega) (by omega)).mpr
      ⟨by rw [List.length_drop]; omega, rfl⟩⟩
  obtain ⟨c, t', hs', hjk, hc⟩ := pipe_hstep hv0 hrest he k t f m a st hj hst
  refine ⟨c, ⟨t', st.fmp, st.mem, st.adv⟩, ?_, hjk, hc⟩
  rw [hst, ← hs']

theorem pipe_completes {C : Nat} {v : List Nat} {start K : Nat} {rest : List Nat} {f : Nat} {m : Mem}
    {a : List Nat} (hv : v.length = 12) (hrest : 2 ≤ rest.length) (he : start + 2 * K ≤ 4294967296)
    (htape : 8 * K ≤ a.length) :
    Completes C mem_pipe_double_words_to_memory ⟨v.reverse ++ start :: (start + 2 * K) :: rest, f, m, a⟩
      ⟨padN 16 ((pipeState K v a).reverse ++ (start + 2 * K) :: rest), f, pipeMem C K start m a, a.drop (8 * K)⟩
      (9 * K + 22) (K + 4) := by
  obtain ⟨s', ⟨i, hik, hil, ha, ht, hf', hmm⟩, hloop⟩ :=
    Completes.loop (C := C) factsP
      (fun k s => J C start (start + 2 * K) rest f m v a K k s.stack s.fmp s.mem s.adv)
      (fun k s => J_len hv hrest)
      (pipe_hstep_fwd hv hrest he htape)
      (k := K) (s := ⟨v.reverse ++ start :: (start + 2 * K) :: rest, f, m, a⟩)
      J_init
      (flag_iff (p := start + 2 * K = start) (by omega))
  have hi : i = K := by omega
  subst i
  obtain ⟨t', f', m', a'⟩ := s'
  simp only at ha ht hf' hmm
  subst t' f' m' a'
  obtain ⟨r0, r1, rest', rfl⟩ : ∃ r0 r1 rest', rest = r0 :: r1 :: rest' := by
    match rest, hrest with
    | r0 :: r1 :: rest', _ => exact ⟨r0, r1, rest', rfl⟩
  rw [shape]
  refine (((Completes.spanM HashMem.factsA (HashMem.proA_run hv (by omega))).join hloop).join
    (Completes.spanM factsE (epiP_run (pipeState_len K v a hv)))).mono ?_ ?_
  · simp only [HashMem.proA, bodyP, epiP, List.length_cons, List.length_nil]
    omega
  · omega

end PipeMem

namespace HashMem
open PipeMem

theorem hashEven_eq_pipeState (ctx : Nat) (m : Mem) : ∀ (K a : Nat) (v : List Nat),
    hashEven ctx m K a v = pipeState K v (memEls ctx m a K)
  | 0, _, _ => rfl
  | K + 1, a, v => by
    rw [hashEven, memEls, pipeState, hashEven_eq_pipeState ctx m K (a + 2)]
    simp [absorb, Word.toList]

/-- Started from the all-zero sponge state, the digest of the `K`-step state is
    `Rpo256::hash_elements` of the `8K` memory elements (the model's `Rpo.hashElements`). -/
theorem hashEven_is_hashElements (ctx : Nat) (m : Mem) (K a : Nat) :
    Rpo.digestOf (hashEven ctx m K a (List.replicate 12 0)) = Rpo.hashElements (memEls ctx m a K) := by
  have h := pipeState_is_hashElements K (memEls ctx m a K) (by rw [memEls_len]; omega)
  rwa [← hashEven_eq_pipeState, List.take_of_length_le (by rw [memEls_len]; omega)] at h

end HashMem
end Miden
