/-
  The rows a completed run appends (`Runs`), and with them clock and trace (`Ext`); `exec_prog` is the
  corollary the limit theorems use.
-/
import Miden.Lemmas.Exec
namespace Miden
namespace Vm

mutual
/-- `Runs env b l`: the row sequence `l` (chronological) is a depth-first execution of block `b`
    for some sequence of branch / loop decisions. -/
inductive Runs (env : Env) : Block → List Op → Prop
  | span (ops : List Op) : Runs env (.span ops) ([Op.span] ++ spanRows ops ++ [Op.end])
  | join {a b : Block} {la lb : List Op} : Runs env a la → Runs env b lb →
      Runs env (.join a b) ([Op.join] ++ la ++ lb ++ [Op.end])
  | splitT {t f : Block} {l : List Op} : Runs env t l →
      Runs env (.split t f) ([Op.split] ++ l ++ [Op.end])
  | splitF {t f : Block} {l : List Op} : Runs env f l →
      Runs env (.split t f) ([Op.split] ++ l ++ [Op.end])
  | loopSkip (body : Block) : Runs env (.loop body) [Op.loop, Op.end]
  | loopEnter {body : Block} {l lt : List Op} : Runs env body l → LoopTail env body lt →
      Runs env (.loop body) ([Op.loop] ++ l ++ lt)
  | call {target : Word} {sc : Bool} {b : Block} {l : List Op} :
      env.cbTable.lookup target = some b → Runs env b l →
      Runs env (.call target sc) ([if sc then Op.syscall else Op.call] ++ l ++ [Op.end])
  | dyncall {target : Word} {sc : Bool} {l : List Op} : target = env.dynHash → DynRuns env l →
      Runs env (.call target sc) ([if sc then Op.syscall else Op.call] ++ l ++ [Op.end])
  | dyn {l : List Op} : DynRuns env l → Runs env .dyn l
/-- Rows of a dynamically dispatched block: DYN, the body found in the code-block table, END. -/
inductive DynRuns (env : Env) : List Op → Prop
  | mk {target : Word} {b : Block} {l : List Op} : env.cbTable.lookup target = some b →
      Runs env b l → DynRuns env ([Op.dyn] ++ l ++ [Op.end])
/-- Rows after the first iteration of a loop body: REPEAT + body any number of times, then END. -/
inductive LoopTail (env : Env) : Block → List Op → Prop
  | done (body : Block) : LoopTail env body [Op.end]
  | again {body : Block} {l lt : List Op} : Runs env body l → LoopTail env body lt →
      LoopTail env body ([Op.repeat] ++ l ++ lt)
end

/-- `vm'` extends `vm` by exactly the rows `l`: one clock cycle per row, within the limit. -/
def Ext (env : Env) (vm vm' : Vm) (l : List Op) : Prop :=
  vm'.trace = l.reverse ++ vm.trace ∧ vm'.clk = vm.clk + l.length ∧ vm'.clk ≤ env.maxCycles

theorem Ext.row {env : Env} {vm vm' : Vm} {op row : Op} (h : vm.execRow env op row = .ok vm') :
    Ext env vm vm' [row] := by
  obtain ⟨c, t, b⟩ := execRow_ok h
  exact ⟨by simp [t], by simp [c], b⟩

theorem Ext.ops {env : Env} {rows : List Op} {vm vm' : Vm} (h : execOps env rows vm = .ok vm')
    (hb : vm'.clk ≤ env.maxCycles) : Ext env vm vm' rows :=
  ⟨(execOps_adv rows h).1, (execOps_adv rows h).2, hb⟩

theorem Ext.trans {env : Env} {a b c : Vm} {l1 l2 : List Op} (h1 : Ext env a b l1) (h2 : Ext env b c l2) :
    Ext env a c (l1 ++ l2) := by
  refine ⟨?_, ?_, h2.2.2⟩
  · rw [h2.1, h1.1]
    simp
  · rw [h2.2.1, h1.2.1, List.length_append]
    omega

theorem exec_runs_all (env : Env) : ∀ fuel : Nat,
    (∀ b vm vm', exec env fuel b vm = .ok vm' → ∃ l, Runs env b l ∧ Ext env vm vm' l) ∧
    (∀ vm vm', execDyn env fuel vm = .ok vm' → ∃ l, DynRuns env l ∧ Ext env vm vm' l) ∧
    (∀ body vm vm', loopIter env fuel body vm = .ok vm' → ∃ l, LoopTail env body l ∧ Ext env vm vm' l) := by
  intro fuel
  induction fuel with
  | zero => exact ⟨fun _ _ _ h => absurd h exec_zero, fun _ _ h => absurd h execDyn_zero,
      fun _ _ _ h => absurd h loopIter_zero⟩
  | succ n ih =>
    obtain ⟨ihE, ihD, ihL⟩ := ih
    refine ⟨?_, ?_, ?_⟩
    · intro b vm vm' h
      cases b with
      | span ops =>
        obtain ⟨v1, v2, h1, h2, h3⟩ := exec_span_ok.mp h
        have hb : v2.clk ≤ env.maxCycles := by
          have := execRow_ok h3
          omega
        exact ⟨_, Runs.span ops, ((Ext.row h1).trans (Ext.ops h2 hb)).trans (Ext.row h3)⟩
      | join a b =>
        obtain ⟨v1, v2, v3, h1, h2, h3, h4⟩ := exec_join_ok.mp h
        obtain ⟨la, ra, ea⟩ := ihE _ _ _ h2
        obtain ⟨lb, rb, eb⟩ := ihE _ _ _ h3
        exact ⟨_, Runs.join ra rb, (((Ext.row h1).trans ea).trans eb).trans (Ext.row h4)⟩
      | split t f =>
        obtain ⟨v1, v2, h1, h2, h3⟩ := exec_split_ok.mp h
        rcases h2 with ⟨_, h2⟩ | ⟨_, h2⟩
        · obtain ⟨l, r, e⟩ := ihE _ _ _ h2
          exact ⟨_, Runs.splitT r, ((Ext.row h1).trans e).trans (Ext.row h3)⟩
        · obtain ⟨l, r, e⟩ := ihE _ _ _ h2
          exact ⟨_, Runs.splitF r, ((Ext.row h1).trans e).trans (Ext.row h3)⟩
      | loop body =>
        obtain ⟨v1, h1, h2⟩ := exec_loop_ok.mp h
        rcases h2 with ⟨_, h2⟩ | ⟨_, v2, h2, h3⟩
        · exact ⟨_, Runs.loopSkip body, (Ext.row h1).trans (Ext.row h2)⟩
        · obtain ⟨l, r, e⟩ := ihE _ _ _ h2
          obtain ⟨lt, rt, et⟩ := ihL _ _ _ h3
          exact ⟨_, Runs.loopEnter r rt, ((Ext.row h1).trans e).trans et⟩
      | call target sc =>
        obtain ⟨_, v1, v2, h1, h2, _, h3⟩ := exec_call_ok.mp h
        have e1 : Ext env vm v1 [if sc then Op.syscall else Op.call] := by
          have := Ext.row h1
          rwa [Ext, enter_clk, enter_trace] at this
        have e3 : Ext env v2 vm' [Op.end] := Ext.row (vm := leave vm v2) h3
        rcases h2 with ⟨hd, h2⟩ | ⟨_, b, hl, h2⟩
        · obtain ⟨l, r, e⟩ := ihD _ _ h2
          exact ⟨_, Runs.dyncall hd r, (e1.trans e).trans e3⟩
        · obtain ⟨l, r, e⟩ := ihE _ _ _ h2
          exact ⟨_, Runs.call hl r, (e1.trans e).trans e3⟩
      | dyn =>
        obtain ⟨l, r, e⟩ := ihD _ _ (exec_dyn.symm.trans h)
        exact ⟨l, Runs.dyn r, e⟩
      | proxy t => exact absurd h exec_proxy
    · intro vm vm' h
      obtain ⟨_, _, _, _, _, b, v1, v2, _, h1, hl, h2, h3⟩ := execDyn_ok.mp h
      obtain ⟨l, r, e⟩ := ihE _ _ _ h2
      exact ⟨_, DynRuns.mk hl r, ((Ext.row h1).trans e).trans (Ext.row h3)⟩
    · intro body vm vm' h
      rcases loopIter_ok.mp h with ⟨_, h1⟩ | ⟨_, v1, v2, h1, h2, h3⟩
      · exact ⟨_, LoopTail.done body, Ext.row h1⟩
      · obtain ⟨l, r, e⟩ := ihE _ _ _ h2
        obtain ⟨lt, rt, et⟩ := ihL _ _ _ h3
        exact ⟨_, LoopTail.again r rt, ((Ext.row h1).trans e).trans et⟩

theorem DynRuns.ne_nil {env : Env} {l : List Op} (h : DynRuns env l) : l ≠ [] := by
  cases h
  simp

theorem Runs.ne_nil {env : Env} {b : Block} {l : List Op} (h : Runs env b l) : l ≠ [] := by
  cases h with
  | dyn h => exact h.ne_nil
  | _ => simp

theorem LoopTail.ne_nil {env : Env} {b : Block} {l : List Op} (h : LoopTail env b l) : l ≠ [] := by
  cases h <;> simp

theorem Ext.prog {env : Env} {a b : Vm} {l : List Op} (h : Ext env a b l) (hl : l ≠ []) : Prog env a b := by
  have := List.length_pos_iff.mpr hl
  exact ⟨⟨l.reverse, h.1, by rw [h.2.1, List.length_reverse]⟩, h.2.2, by rw [h.2.1]; omega⟩

theorem exec_prog_all (env : Env) (fuel : Nat) :
    (∀ b vm vm', exec env fuel b vm = .ok vm' → Prog env vm vm') ∧
    (∀ vm vm', execDyn env fuel vm = .ok vm' → Prog env vm vm') ∧
    (∀ body vm vm', loopIter env fuel body vm = .ok vm' → Prog env vm vm') := by
  obtain ⟨hE, hD, hL⟩ := exec_runs_all env fuel
  refine ⟨fun b vm vm' h => ?_, fun vm vm' h => ?_, fun body vm vm' h => ?_⟩
  · obtain ⟨l, r, e⟩ := hE b vm vm' h
    exact e.prog r.ne_nil
  · obtain ⟨l, r, e⟩ := hD vm vm' h
    exact e.prog r.ne_nil
  · obtain ⟨l, r, e⟩ := hL body vm vm' h
    exact e.prog r.ne_nil

theorem exec_prog {env : Env} {fuel : Nat} {b : Block} {vm vm' : Vm}
    (h : exec env fuel b vm = .ok vm') : Prog env vm vm' := (exec_prog_all env fuel).1 b vm vm' h

end Vm
end Miden
