/-
  Helper lemmas about the auxiliary column builders (`Miden.Model.Lookup`) over an arbitrary field:
  the backward pass of `build_aux_column` computes the running-product specification, closed forms
  of the running product and of the LogUp running sum.
-/
import Miden.Model.Lookup
import Mathlib.Tactic.Ring
import Mathlib.Algebra.BigOperators.Ring.List

namespace Miden.Lookup

variable {F : Type} [Field F]

theorem prod_eq (l : List F) : prod l = l.prod := by
  unfold prod
  rw [List.prod_eq_foldl]

theorem backward_snd (xs : List (F × F)) (d : F) :
    (backward xs d).2 = d * (xs.map Prod.snd).prod := by
  induction xs with
  | nil => simp [backward]
  | cons x xs ih =>
    obtain ⟨rp, rq⟩ := x
    simp only [backward, List.map_cons, List.prod_cons]
    rw [ih]
    ring

theorem prod_ne_zero {l : List F} (h : ∀ q ∈ l, q ≠ 0) : l.prod ≠ 0 :=
  List.prod_ne_zero fun h0 => h 0 h0 rfl

theorem prefixProds_length (v : F) (resp : List F) :
    (prefixProds v resp).length = resp.length + 1 := by
  induction resp generalizing v with
  | nil => rfl
  | cons r rs ih => simp [prefixProds, ih]

/-- `buildAuxColumn_eq_spec` with the divisor accumulated so far, `acc`, as a variable: the form in
    which the induction over the rows goes through. -/
theorem backward_spec (v acc q0 : F) (resp req : List F) (h : resp.length = req.length)
    (hne : ∀ q ∈ req, q ≠ 0) :
    (backward ((prefixProds v resp).zip (q0 :: req)) (acc * req.prod)⁻¹).1
      = specColumn v acc resp req := by
  induction resp generalizing v acc q0 req with
  | nil =>
    cases req with
    | nil => simp only [prefixProds, List.zip_cons_cons, List.zip_nil_right, backward, specColumn,
        List.prod_nil, mul_one]
    | cons _ _ => cases h
  | cons r rs ih =>
    cases req with
    | nil => cases h
    | cons q qs =>
      have hlen : rs.length = qs.length := Nat.succ.inj h
      simp only [prefixProds, List.zip_cons_cons, backward, specColumn]
      congr 1
      · -- the divisor the rows below leave: `(acc · ∏ (q :: qs))⁻¹ · ∏ (q :: qs) = acc⁻¹`
        rw [backward_snd, List.map_snd_zip (by rw [prefixProds_length, hlen, List.length_cons])]
        rw [mul_inv, mul_assoc, inv_mul_cancel₀ (prod_ne_zero hne), mul_one]
      · rw [List.prod_cons, ← mul_assoc]
        exact ih (v * r) (acc * q) q qs hlen fun x hx => hne x (List.mem_cons_of_mem q hx)

/-- `build_aux_column` (prefix products, ONE inversion, backward pass) computes the running product
    `init · ∏_{k<i} resp k / ∏_{k<i} req k` whenever no request multiplicand is zero. -/
theorem buildAuxColumn_eq_spec (v q0 : F) (resp req : List F) (h : resp.length = req.length)
    (hne : ∀ q ∈ req, q ≠ 0) :
    buildAuxColumn v q0 resp req = specColumn v 1 resp req := by
  unfold buildAuxColumn
  rw [prod_eq]
  have := backward_spec v 1 q0 resp req h hne
  simpa using this

theorem specColumn_ne_nil (v acc : F) (resp req : List F) : specColumn v acc resp req ≠ [] := by
  cases resp <;> cases req <;> exact List.cons_ne_nil _ _

theorem specColumn_length (v acc : F) (resp req : List F) (h : resp.length = req.length) :
    (specColumn v acc resp req).length = resp.length + 1 := by
  induction resp generalizing v acc req with
  | nil =>
    cases req with
    | nil => rfl
    | cons _ _ => cases h
  | cons r rs ih =>
    cases req with
    | nil => cases h
    | cons q qs => exact congrArg Nat.succ (ih (v * r) (acc * q) qs (Nat.succ.inj h))

/-- Every value of the column: `init · ∏_{k<i} resp k / (acc · ∏_{k<i} req k)`. -/
theorem specColumn_getElem (v acc : F) (resp req : List F)
    (i : Nat) (hi : i < (specColumn v acc resp req).length) :
    (specColumn v acc resp req)[i] = v * (resp.take i).prod * (acc * (req.take i).prod)⁻¹ := by
  fun_induction specColumn v acc resp req generalizing i with
  | case1 v acc r rs q qs ih =>
    cases i with
    | zero => simp only [List.getElem_cons_zero, List.take_zero, List.prod_nil, mul_one]
    | succ j =>
      simp only [List.getElem_cons_succ, List.take_succ_cons, List.prod_cons]
      rw [ih, mul_assoc v, mul_assoc acc]
  | case2 v acc resp req _ =>
    obtain rfl : i = 0 := Nat.lt_one_iff.mp hi
    simp only [List.getElem_cons_zero, List.take_zero, List.prod_nil, mul_one]

theorem specColumn_getLast (v acc : F) (resp req : List F) (h : resp.length = req.length) :
    (specColumn v acc resp req).getLast (specColumn_ne_nil v acc resp req)
      = v * resp.prod * (acc * req.prod)⁻¹ := by
  rw [List.getLast_eq_getElem]
  rw [specColumn_getElem v acc resp req]
  simp only [specColumn_length v acc resp req h, Nat.add_sub_cancel]
  rw [List.take_length, h, List.take_length]

theorem foldl_add_eq (f : (F × F) → F) (b : F) (l : List (F × F)) :
    l.foldl (fun acc mv => acc + f mv) b = b + (l.map f).sum := by
  induction l generalizing b with
  | nil => simp
  | cons x xs ih =>
    simp only [List.foldl_cons, List.map_cons, List.sum_cons]
    rw [ih]
    ring

theorem foldl_sub_eq (f : F → F) (b : F) (l : List F) :
    l.foldl (fun acc x => acc - f x) b = b - (l.map f).sum := by
  induction l generalizing b with
  | nil => simp
  | cons x xs ih =>
    simp only [List.foldl_cons, List.map_cons, List.sum_cons]
    rw [ih]
    ring

theorem logUpColumn_ne_nil (alpha b : F) (rows : List (List (F × F) × List F)) :
    logUpColumn alpha b rows ≠ [] := by
  cases rows with
  | nil => simp [logUpColumn]
  | cons r rs => obtain ⟨t, l⟩ := r; simp [logUpColumn]

/-- Closed form of the LogUp bus: the last value is the first one plus all table terms minus all
    looked-up terms. -/
theorem logUpColumn_getLast (alpha b : F) (rows : List (List (F × F) × List F)) :
    (logUpColumn alpha b rows).getLast (logUpColumn_ne_nil alpha b rows)
      = b + ((rows.flatMap (·.1)).map (fun mv => mv.1 * (alpha - mv.2)⁻¹)).sum
          - ((rows.flatMap (·.2)).map (fun l => (alpha - l)⁻¹)).sum := by
  induction rows generalizing b with
  | nil => simp [logUpColumn]
  | cons r rs ih =>
    obtain ⟨t, l⟩ := r
    simp only [logUpColumn]
    rw [List.getLast_cons (logUpColumn_ne_nil _ _ _), ih]
    rw [foldl_sub_eq (fun l => (alpha - l)⁻¹), foldl_add_eq (fun mv => mv.1 * (alpha - mv.2)⁻¹)]
    simp only [List.flatMap_cons, List.map_append, List.sum_append]
    ring

theorem sum_replicate_terms (g : F → F) (ts : List (ℕ × F)) :
    ((ts.flatMap (fun mv => List.replicate mv.1 mv.2)).map g).sum
      = (ts.map (fun mv => (mv.1 : F) * g mv.2)).sum := by
  induction ts with
  | nil => simp
  | cons t ts ih =>
    simp only [List.flatMap_cons, List.map_append, List.sum_append, ih, List.map_cons, List.sum_cons,
      List.map_replicate, List.sum_replicate, nsmul_eq_mul]

end Miden.Lookup
