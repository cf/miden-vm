/-
  Call sets (`Miden.Model.Asm`): membership in `union` / `insert` / `register` / `bodyCallset` / `cbTable`
  (`mem_foldl`: the one induction behind both folds), the call set `cs ps i` of procedure `i` as a
  function of all call sets when references point backwards (`cs_eq`), closure of call sets under the
  call relation (`Closed`: `body_closed`, `cs_closed`; `needed_subset`), and the fold of the memoising
  compile over a body (`foldl_ensureStep`).
-/
import Miden.Model.Asm
import Mathlib.Data.List.Induction
namespace Miden.Asm

theorem mem_union (a b : List Nat) (x : Nat) : x ∈ union a b ↔ x ∈ a ∨ x ∈ b := by
  unfold union
  induction b generalizing a with
  | nil => simp
  | cons y ys ih =>
    simp only [List.foldl_cons]
    rw [ih]
    by_cases h : y ∈ a
    · simp only [h, if_true, List.mem_cons]
      rw [← or_assoc, or_iff_left_of_imp fun e : x = y => e ▸ h]
    · simp only [h, if_false, List.mem_append, List.mem_cons, List.not_mem_nil, or_false, or_assoc]

theorem mem_insert (a : List Nat) (x y : Nat) : x ∈ insert y a ↔ x = y ∨ x ∈ a := by
  rw [show insert y a = union a [y] from rfl, mem_union, List.mem_singleton, or_comm]

def contrib (done : List (List Nat)) : Ref → List Nat
  | .exec j => done.getD j []
  | .call j => j :: done.getD j []

theorem mem_register (done : List (List Nat)) (acc : List Nat) (r : Ref) (x : Nat) :
    x ∈ register done acc r ↔ x ∈ acc ∨ x ∈ contrib done r := by
  cases r with
  | exec j => exact mem_union ..
  | call j =>
    simp only [register, contrib, mem_insert, mem_union, List.mem_cons]
    exact or_left_comm

/-- Folding a step that adds `g a` to the set collected so far collects every `g a`. -/
theorem mem_foldl {α : Type} {f : List Nat → α → List Nat} {g : α → List Nat}
    (hf : ∀ acc a x, x ∈ f acc a ↔ x ∈ acc ∨ x ∈ g a) (l : List α) (acc : List Nat) (x : Nat) :
    x ∈ l.foldl f acc ↔ x ∈ acc ∨ ∃ a ∈ l, x ∈ g a := by
  induction l generalizing acc with
  | nil => simp
  | cons a as ih => simp only [List.foldl_cons, ih, hf, List.mem_cons, exists_eq_or_imp, or_assoc]

theorem mem_bodyCallset {done : List (List Nat)} {refs : List Ref} {x : Nat} :
    x ∈ bodyCallset done refs ↔ ∃ r ∈ refs, x ∈ contrib done r := by
  unfold bodyCallset
  rw [mem_foldl (mem_register done)]
  simp

theorem refsBelow_iff (n : Nat) (refs : List Ref) : refsBelow n refs = true ↔ ∀ r ∈ refs, r.idx < n := by
  unfold refsBelow
  rw [List.all_eq_true]
  refine forall₂_congr fun r _ => ?_
  cases r <;> simp [Ref.idx]

theorem compileAll_append (ps : List (List Ref)) (p : List Ref) :
    compileAll (ps ++ [p]) = compileAll ps ++ [bodyCallset (compileAll ps) p] := by
  unfold compileAll
  rw [List.foldl_append]
  rfl

theorem compileAll_length (ps : List (List Ref)) : (compileAll ps).length = ps.length := by
  induction ps using List.reverseRecOn with
  | nil => rfl
  | append_singleton ps p ih => rw [compileAll_append]; simp [ih]

theorem compileAll_take (ps : List (List Ref)) (i : Nat) :
    compileAll (ps.take i) = (compileAll ps).take i := by
  induction ps using List.reverseRecOn with
  | nil => simp [compileAll]
  | append_singleton ps p ih =>
    by_cases h : i ≤ ps.length
    · rw [List.take_append_of_le_length h, ih, compileAll_append,
        List.take_append_of_le_length (by rw [compileAll_length]; exact h)]
    · have h' : ps.length + 1 ≤ i := by omega
      rw [List.take_of_length_le (by simp; omega), List.take_of_length_le (by
        rw [compileAll_length]; simp; omega)]

theorem register_congr (d1 d2 : List (List Nat)) (acc : List Nat) (r : Ref)
    (h : d1.getD r.idx [] = d2.getD r.idx []) : register d1 acc r = register d2 acc r := by
  cases r <;> simp only [register, Ref.idx] at h ⊢ <;> rw [h]

theorem bodyCallset_congr (d1 d2 : List (List Nat)) (refs : List Ref)
    (h : ∀ r ∈ refs, d1.getD r.idx [] = d2.getD r.idx []) :
    bodyCallset d1 refs = bodyCallset d2 refs := by
  unfold bodyCallset
  generalize ([] : List Nat) = acc
  induction refs generalizing acc with
  | nil => rfl
  | cons r rs ih =>
    simp only [List.foldl_cons]
    rw [register_congr d1 d2 acc r (h r (by simp))]
    exact ih (fun r' hr' => h r' (by simp [hr'])) _

def cs (ps : List (List Ref)) (i : Nat) : List Nat := (compileAll ps).getD i []

theorem cs_eq_take (ps : List (List Ref)) (i : Nat) (hi : i < ps.length) :
    cs ps i = bodyCallset ((compileAll ps).take i) (ps.getD i []) := by
  unfold cs
  induction ps using List.reverseRecOn with
  | nil => cases hi
  | append_singleton ps p ih =>
    have hc := compileAll_length ps
    rw [List.length_append, List.length_singleton, Nat.lt_succ_iff_lt_or_eq] at hi
    rw [compileAll_append, List.getD_eq_getElem?_getD, List.getD_eq_getElem?_getD]
    -- `i` is among the earlier procedures, or it is the one just compiled
    rcases hi with h | rfl
    · rw [List.getElem?_append_left (hc ▸ h), List.getElem?_append_left h,
        List.take_append_of_le_length (hc ▸ Nat.le_of_lt h), ← List.getD_eq_getElem?_getD,
        ← List.getD_eq_getElem?_getD, ih h]
    · rw [List.getElem?_append_right (Nat.le_of_eq hc), List.getElem?_append_right (Nat.le_refl _),
        List.take_append_of_le_length (Nat.le_of_eq hc.symm), ← hc, List.take_length, Nat.sub_self]
      rfl

theorem wellFormed_iff (ps : List (List Ref)) :
    wellFormed ps = true ↔ ∀ i < ps.length, ∀ r ∈ ps.getD i [], r.idx < i := by
  unfold wellFormed
  rw [List.all_eq_true]
  constructor
  · intro h i hi
    exact (refsBelow_iff i _).mp (h i (List.mem_range.mpr hi))
  · intro h i hi
    exact (refsBelow_iff i _).mpr (h i (List.mem_range.mp hi))

/-- With references pointing backwards, a call set computed from the prefix equals the one computed
    from all call sets. -/
theorem cs_eq (ps : List (List Ref)) (hwf : wellFormed ps = true) (i : Nat) (hi : i < ps.length) :
    cs ps i = bodyCallset (compileAll ps) (ps.getD i []) := by
  rw [cs_eq_take ps i hi]
  apply bodyCallset_congr
  intro r hr
  have hlt := (wellFormed_iff ps).mp hwf i hi r hr
  simp only [List.getD_eq_getElem?_getD, List.getElem?_take, hlt, if_true]

theorem mem_contrib (ps : List (List Ref)) (r : Ref) (x : Nat) :
    x ∈ contrib (compileAll ps) r ↔ (r = .call x) ∨ x ∈ cs ps r.idx := by
  cases r with
  | exec j => simp [contrib, cs, Ref.idx]
  | call j =>
    simp only [contrib, cs, Ref.idx, List.mem_cons, Ref.call.injEq, eq_comm]

/-- `S` holds only procedures below `n` and, with each of them, its whole call set. -/
def Closed (ps : List (List Ref)) (n : Nat) (S : List Nat) : Prop :=
  ∀ j ∈ S, j < n ∧ ∀ x ∈ cs ps j, x ∈ S

theorem body_closed (ps : List (List Ref)) (refs : List Ref) (n : Nat)
    (hb : ∀ r ∈ refs, r.idx < n) (ih : ∀ k < n, Closed ps k (cs ps k)) :
    Closed ps n (bodyCallset (compileAll ps) refs) := by
  intro j hj
  obtain ⟨r, hr, hx⟩ := mem_bodyCallset.mp hj
  have into : ∀ x, x ∈ cs ps r.idx → x ∈ bodyCallset (compileAll ps) refs := fun x hx =>
    mem_bodyCallset.mpr ⟨r, hr, (mem_contrib ps r x).mpr (Or.inr hx)⟩
  rcases (mem_contrib ps r j).mp hx with h | h
  · subst h
    exact ⟨hb _ hr, into⟩
  · obtain ⟨hj', hsub⟩ := ih r.idx (hb r hr) j h
    exact ⟨Nat.lt_trans hj' (hb r hr), fun x hxj => into x (hsub x hxj)⟩

theorem cs_closed (ps : List (List Ref)) (hwf : wellFormed ps = true) :
    ∀ i, i < ps.length → Closed ps i (cs ps i) := by
  intro i
  induction i using Nat.strongRecOn with
  | ind i ih =>
    intro hi
    rw [cs_eq ps hwf i hi]
    exact body_closed ps _ i ((wellFormed_iff ps).mp hwf i hi)
      fun k hk => ih k hk (Nat.lt_trans hk hi)

/-- Every target needed at run time by a body is in the body's call set. -/
theorem needed_subset (ps : List (List Ref)) (hwf : wellFormed ps = true) (fuel : Nat) :
    ∀ (refs : List Ref), (∀ r ∈ refs, r.idx < ps.length) →
      ∀ x ∈ needed ps fuel refs, x ∈ bodyCallset (compileAll ps) refs := by
  induction fuel with
  | zero => intro refs _ x hx; simp [needed] at hx
  | succ fuel ih =>
    intro refs hb x hx
    simp only [needed, List.mem_flatMap] at hx
    obtain ⟨r, hr, hxr⟩ := hx
    refine mem_bodyCallset.mpr ⟨r, hr, (mem_contrib ps r x).mpr ?_⟩
    cases r with
    | call j => exact Or.inl (congrArg Ref.call (List.mem_singleton.mp hxr).symm)
    | exec j =>
      have hj : j < ps.length := hb _ hr
      have := ih (ps.getD j []) (fun r hr => Nat.lt_trans ((wellFormed_iff ps).mp hwf j hj r hr) hj) x hxr
      rw [← cs_eq ps hwf j hj] at this
      exact Or.inr this

theorem mem_cbTable {ps : List (List Ref)} {mainLocal : List Nat} {mainRefs : List Ref} {x : Nat} :
    x ∈ cbTable ps mainLocal mainRefs
      ↔ x ∈ bodyCallset (compileAll ps) mainRefs ∨ ∃ i ∈ mainLocal, x ∈ cs ps i :=
  mem_foldl (fun acc i x => mem_union acc (cs ps i) x) mainLocal _ x

theorem Cache.get?_some (c : Cache) (i : Nat) (v : List Nat) (h : c.get? i = some v) : (i, v) ∈ c := by
  simp only [Cache.get?, Option.map_eq_some_iff] at h
  obtain ⟨⟨a, b⟩, hf, rfl⟩ := h
  have ha : a = i := by simpa using List.find?_some hf
  exact ha ▸ List.mem_of_find?_eq_some hf

variable {f : Cache → Nat → List Nat × Cache} {done : List (List Nat)}

theorem ensureStep_eq {st : List Nat × Cache} {r : Ref} (h : (f st.2 r.idx).1 = done.getD r.idx []) :
    ensureStep f st r = (register done st.1 r, (f st.2 r.idx).2) := by
  cases r <;> simp only [ensureStep, register, Ref.idx] at h ⊢ <;> rw [h]

/-- While `f` answers with the entries of `done` and keeps `I`, folding `ensureStep f` registers the
    references against `done` and keeps `I`. -/
theorem foldl_ensureStep {I : Cache → Prop} (refs : List Ref)
    (hf : ∀ c, I c → ∀ r ∈ refs, (f c r.idx).1 = done.getD r.idx [] ∧ I (f c r.idx).2)
    (st : List Nat × Cache) (hst : I st.2) :
    (refs.foldl (ensureStep f) st).1 = refs.foldl (register done) st.1 ∧
      I (refs.foldl (ensureStep f) st).2 := by
  induction refs generalizing st with
  | nil => exact ⟨rfl, hst⟩
  | cons r rs ih =>
    obtain ⟨h1, h2⟩ := hf st.2 hst r List.mem_cons_self
    rw [List.foldl_cons, List.foldl_cons, ensureStep_eq h1]
    exact ih (fun c hc r' hr' => hf c hc r' (List.mem_cons_of_mem r hr')) _ h2

end Miden.Asm
