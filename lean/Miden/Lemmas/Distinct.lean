/-
  A set of small numbers as a bit mask: distinctness of a list and membership in it are checked in
  one pass each on kernel-accelerated `Nat` operations, where the `Decidable` instances of `Nodup`
  and `∈` make the kernel do quadratic work on proof-carrying terms.  Core Lean only.
-/
namespace Miden

/-- One pass over `l`: `none` if some element was already in the mask, else the mask with all of
    `l` added. -/
def addDistinct : Nat → List Nat → Option Nat
  | m, [] => some m
  | m, x :: xs => if m.testBit x then none else addDistinct (m ||| 2 ^ x) xs

theorem addDistinct_spec : ∀ (l : List Nat) (m m' : Nat), addDistinct m l = some m' →
    l.Nodup ∧ (∀ x ∈ l, m.testBit x = false) ∧ ∀ y, m'.testBit y = (m.testBit y || decide (y ∈ l))
  | [], m, m', h => by
    cases h
    simp
  | x :: xs, m, m', h => by
    unfold addDistinct at h
    split at h
    · cases h
    · next hx =>
      obtain ⟨hn, hd, hm⟩ := addDistinct_spec xs _ m' h
      simp only [Nat.testBit_or, Nat.testBit_two_pow, Bool.or_eq_false_iff,
        decide_eq_false_iff_not] at hd
      refine ⟨List.nodup_cons.mpr ⟨fun hmem => (hd x hmem).2 rfl, hn⟩, ?_, ?_⟩
      · intro y hy
        rcases List.mem_cons.mp hy with rfl | hy
        · simpa using hx
        · exact (hd y hy).1
      · intro y
        simp [hm y, Nat.testBit_or, Nat.testBit_two_pow, Bool.or_assoc, eq_comm]

/-- `l` has no repetitions and contains all of `ys`. -/
def distinctWith (l ys : List Nat) : Bool :=
  match addDistinct 0 l with
  | some m => ys.all m.testBit
  | none => false

theorem distinctWith_spec {l ys : List Nat} (h : distinctWith l ys = true) :
    l.Nodup ∧ ∀ y ∈ ys, y ∈ l := by
  unfold distinctWith at h
  split at h
  · next m hm =>
    obtain ⟨hn, -, hb⟩ := addDistinct_spec l 0 m hm
    exact ⟨hn, fun y hy => by simpa [hb y] using List.all_eq_true.mp h y hy⟩
  · cases h

end Miden
