/-
  The top cells of a stack by name (`exists4`, `exists16` …).  One operation on the machine state: how
  deep it leaves the stack (`stepCore_depth`), which cells it leaves alone (`stepCore_frame`), the cells
  of the parametric stack operations, and which parts of the state besides the stack it reads or writes
  (`Op.parts`, `stepCore_overlay`); memory as a map.  Core Lean only.
-/
import Miden.Model.Vm
namespace Miden

/-! The top cells of a stack by name. -/

theorem exists_cons_of_le {n : Nat} {s : List Nat} (h : n + 1 ≤ s.length) :
    ∃ a r, s = a :: r ∧ n ≤ r.length := by
  match s, h with
  | a :: r, h => exact ⟨a, r, rfl, by simpa using h⟩

/-- The first four elements of a stack by name (a sixteen-deep pattern match is dear to compile). -/
theorem exists4 {s : List Nat} {n : Nat} (h : n + 4 ≤ s.length) :
    ∃ a b c d r, s = a :: b :: c :: d :: r ∧ n ≤ r.length := by
  match s, h with
  | a :: b :: c :: d :: r, h => exact ⟨a, b, c, d, r, rfl, by simpa using h⟩

theorem exists8 {l : List Nat} (h : 8 ≤ l.length) :
    ∃ t0 t1 t2 t3 t4 t5 t6 t7 r, l = t0 :: t1 :: t2 :: t3 :: t4 :: t5 :: t6 :: t7 :: r := by
  obtain ⟨t0, t1, t2, t3, r1, rfl, h1⟩ := exists4 (n := 4) h
  obtain ⟨t4, t5, t6, t7, r, rfl, -⟩ := exists4 (n := 0) h1
  exact ⟨_, _, _, _, _, _, _, _, _, rfl⟩

theorem exists16 {s : List Nat} (h : 16 ≤ s.length) :
    ∃ s0 s1 s2 s3 s4 s5 s6 s7 s8 s9 s10 s11 s12 s13 s14 s15 rest,
      s = s0 :: s1 :: s2 :: s3 :: s4 :: s5 :: s6 :: s7 :: s8 :: s9 :: s10 :: s11 :: s12 :: s13
            :: s14 :: s15 :: rest := by
  obtain ⟨s0, s1, s2, s3, r1, rfl, h1⟩ := exists4 (n := 12) h
  obtain ⟨s4, s5, s6, s7, r2, rfl, h2⟩ := exists4 (n := 8) h1
  obtain ⟨s8, s9, s10, s11, r3, rfl, h3⟩ := exists4 (n := 4) h2
  obtain ⟨s12, s13, s14, s15, r4, rfl, -⟩ := exists4 (n := 0) h3
  exact ⟨_, _, _, _, _, _, _, _, _, _, _, _, _, _, _, _, _, rfl⟩

namespace Vm

theorem pad16_len_ge (l : List Nat) : l.length ≤ (pad16 l).length := by
  unfold pad16
  simp

theorem insertAt_len : ∀ (n x : Nat) (l : List Nat), (insertAt n x l).length = l.length + 1
  | 0, _, _ => rfl
  | n + 1, x, y :: l => by simp [insertAt, insertAt_len n x l]
  | n + 1, x, [] => by simp [insertAt]

theorem mds_len : Generated.mds.length = 12 := by decide
theorem ark1_len : ∀ r, r < 7 → (Generated.ark1.getD r []).length = 12 := by decide
theorem ark2_len : ∀ r, r < 7 → (Generated.ark2.getD r []).length = 12 := by decide

theorem round_len (s : List Nat) (r : Nat) (hr : r < 7) : (Rpo.round s r).length = 12 := by
  have h2 := ark2_len r hr
  simp only [List.getD_eq_getElem?_getD] at h2
  simp [Rpo.round, Rpo.applyMds, Rpo.addConsts, mds_len, h2]

theorem permute_len (s : List Nat) : (Rpo.permute s).length = 12 := by
  simp only [Rpo.permute, List.range, List.range.loop, List.foldl]
  exact round_len _ 6 (by decide)

/-- Shift class of an operation as the AIR's composite flags define it. -/
def isLeft (op : Op) : Bool := (32 ≤ op.code && op.code ≤ 47) || op.code = 76 || op.code = 78
def isRight (op : Op) : Bool := (48 ≤ op.code && op.code ≤ 63) || op.code = 72 || op.code = 100

theorem pad16_len_eq (l : List Nat) : (pad16 l).length = max 16 l.length := by
  unfold pad16
  simp
  omega

/-- Reading a cell never sees the padding: cells beyond the end of a stack read as zero anyway. -/
theorem getElem?_pad16 (l : List Nat) (i : Nat) : (pad16 l)[i]?.getD 0 = l[i]?.getD 0 := by
  simp only [pad16, List.getElem?_append]
  split
  · rfl
  · rw [List.getElem?_eq_none (l := l) (by omega), List.getElem?_replicate]
    split <;> rfl

theorem getD_pad16 (l : List Nat) (i : Nat) : (pad16 l).getD i 0 = l.getD i 0 := by
  simp only [List.getD_eq_getElem?_getD, getElem?_pad16]

theorem getElem?_eraseIdx_add (l : List Nat) (n j : Nat) : (l.eraseIdx n)[j + n]? = l[j + n + 1]? := by
  rw [List.getElem?_eraseIdx, if_neg (by omega)]

theorem getElem?_insertAt_add : ∀ (n x : Nat) (l : List Nat) (j : Nat), n ≤ l.length →
    (insertAt n x l)[j + n + 1]? = l[j + n]?
  | 0, _, _, _, _ => rfl
  | n + 1, x, y :: l, j, h => by
    simpa [insertAt, ← Nat.add_assoc] using getElem?_insertAt_add n x l j (by simpa using h)
  | _ + 1, _, [], _, h => absurd h (by simp)

theorem getElem?_insertAt_lt : ∀ (n x : Nat) (l : List Nat) (i : Nat), i < n → n ≤ l.length →
    (insertAt n x l)[i]? = l[i]?
  | n + 1, x, y :: l, 0, _, _ => rfl
  | n + 1, x, y :: l, i + 1, hi, h => by
    simpa [insertAt] using getElem?_insertAt_lt n x l i (by omega) (by simpa using h)
  | _ + 1, _, [], _, _, h => absurd h (by simp)

theorem getElem?_insertAt_self : ∀ (n x : Nat) (l : List Nat), n ≤ l.length →
    (insertAt n x l)[n]? = some x
  | 0, _, _, _ => rfl
  | n + 1, x, y :: l, h => by
    simpa [insertAt] using getElem?_insertAt_self n x l (by simpa using h)
  | _ + 1, _, [], h => absurd h (by simp)

/-- Number of cells at the top of the stack that an operation rewrites (consumes, or replaces in
    place), counted before the operation.  An operation that only reads or pushes has none (DUPn, PUSH,
    ADVPOP; MPVERIFY and U32ASSERT2 check their operands and leave them); operations the model does not
    execute (control operations, RCOMBBASE) fall under the default. -/
def nIn : Op → Nat
  | .noop | .sdepth | .clk | .pad | .push _ | .advpop | .u32assert2 _ | .mpverify
  | .dup0 | .dup1 | .dup2 | .dup3 | .dup4 | .dup5 | .dup6 | .dup7 | .dup9 | .dup11 | .dup13 | .dup15 => 0
  | .assert _ | .fmpadd | .fmpupdate | .neg | .inv | .incr | .not | .eqz | .u32split | .drop | .mload
  | .mstore | .mstorew => 1
  -- the model does not execute FRIE2F4; as a left shift it has to count one cell for `C03.Fits` to hold
  | .frie2f4 => 1
  | .add | .mul | .and | .or | .eq | .u32add | .u32sub | .u32mul | .u32div | .u32and | .u32xor | .swap => 2
  | .u32add3 | .u32madd | .cswap | .movup2 | .movdn2 => 3
  | .caller | .expacc | .ext2mul | .advpopw | .mrupdate | .movup3 | .movdn3 => 4
  | .mloadw | .movup4 | .movdn4 => 5
  | .movup5 | .movdn5 => 6
  | .movup6 | .movdn6 => 7
  | .swapw | .movup7 | .movdn7 => 8
  | .cswapw | .movup8 | .movdn8 => 9
  | .swapw2 | .hperm => 12
  | .mstream | .pipe => 13
  | .swapw3 | .swapdw => 16
  | _ => 0

/-- The same count after the operation: the shift class says by how much it differs. -/
def nOut (op : Op) : Nat :=
  if isRight op then nIn op + 1 else if isLeft op then nIn op - 1 else nIn op

/-- What an operation does to the stack as a list of cells: its depth changes by the shift class (the
    honest side of the AIR's stack-depth constraint), and below the `nIn op` cells it rewrites into
    `nOut op` cells everything stays, shifted by the difference.  One case analysis for both. -/
theorem stepCore_shape {vm r : Vm} {op : Op} (h : vm.stepCore op = .ok r) :
    (16 ≤ vm.stack.length →
      r.stack.length = (if isRight op then vm.stack.length + 1
                        else if isLeft op then max 16 (vm.stack.length - 1) else vm.stack.length)) ∧
    ∀ j, r.stack.getD (j + nOut op) 0 = vm.stack.getD (j + nIn op) 0 := by
  obtain ⟨stack, clk, ctx, fmp, ins, fnh, mem, adv, paths, trace⟩ := vm
  cases op
  -- HPERM apart: its result is an append, where the others are conses, paddings, `eraseIdx`, `insertAt`
  case hperm =>
    simp only [stepCore] at h
    split at h
    · cases h
    · cases h
      have hlen : ((Rpo.permute (List.take 12 stack).reverse).reverse).length = 12 := by
        rw [List.length_reverse, permute_len]
      refine ⟨fun hl => ?_, fun j => ?_⟩
      · simp [isLeft, isRight, Op.code, setStack, permute_len] at hl ⊢
        omega
      · simp [nOut, nIn, isLeft, isRight, Op.code, setStack, List.getD_eq_getElem?_getD,
          List.getElem?_append_right, hlen, Nat.add_comm]
  -- every other operation: unfold, split along its guards (a failing branch contradicts `h`), then read
  -- the depth off the lengths, and cell `j + nOut` through the list operations of the result
  all_goals
    simp only [stepCore, dup, movup, movdn, validAddr] at h
    (repeat' (split at h)) <;> (try cases h) <;> (try subst_vars) <;>
    exact ⟨fun hl => by
        simp [isLeft, isRight, Op.code, setStack, pad16_len_eq, insertAt_len, List.length_eraseIdx, *] at hl ⊢ <;>
          (try split) <;> omega,
      fun j => by
        simp only [nOut, nIn, isLeft, isRight, Op.code, setStack, List.getD_eq_getElem?_getD, getElem?_pad16,
          getElem?_eraseIdx_add, getElem?_insertAt_add, List.getElem?_cons_succ, Nat.reduceLeDiff,
          Nat.reduceEqDiff, Bool.and_true, Bool.and_false, Bool.or_false, Bool.or_true, Bool.false_eq_true,
          if_false, if_true, decide_true, decide_false, Nat.add_zero, Nat.reduceAdd, Nat.reduceSub, *]⟩

theorem stepCore_depth {vm r : Vm} {op : Op} (hl : 16 ≤ vm.stack.length)
    (h : vm.stepCore op = .ok r) :
    r.stack.length = (if isRight op then vm.stack.length + 1
                      else if isLeft op then max 16 (vm.stack.length - 1) else vm.stack.length) :=
  (stepCore_shape h).1 hl

theorem stepCore_frame {vm r : Vm} {op : Op} (h : vm.stepCore op = .ok r) (j : Nat) :
    r.stack.getD (j + nOut op) 0 = vm.stack.getD (j + nIn op) 0 :=
  (stepCore_shape h).2 j

theorem stepCore_len {vm r : Vm} {op : Op} (hl : 16 ≤ vm.stack.length)
    (h : vm.stepCore op = .ok r) : 16 ≤ r.stack.length := by
  rw [stepCore_depth hl h]
  split
  · omega
  · split <;> omega

theorem validAddr_ok {a addr : Nat} (h : validAddr a = .ok addr) : addr = a := by
  unfold validAddr at h
  split at h <;> cases h
  rfl

theorem dup_top {vm r : Vm} {n : Nat} (h : vm.dup n = .ok r) : r.stack.getD 0 0 = vm.stack.getD n 0 := by
  unfold dup at h
  split at h <;> cases h
  simp [setStack, *]

theorem movup_top {vm r : Vm} {n : Nat} (h : vm.movup n = .ok r) :
    r.stack.getD 0 0 = vm.stack.getD n 0 := by
  unfold movup at h
  split at h <;> cases h
  simp [setStack, *]

theorem movup_cell {vm r : Vm} {n i : Nat} (h : vm.movup n = .ok r) (hi : i < n) :
    r.stack.getD (i + 1) 0 = vm.stack.getD i 0 := by
  unfold movup at h
  split at h <;> cases h
  simp [setStack, List.getElem?_eraseIdx, hi]

theorem movdn_cell {vm r : Vm} {n i : Nat} (h : vm.movdn n = .ok r) (hi : i < n) :
    r.stack.getD i 0 = vm.stack.getD (i + 1) 0 := by
  unfold movdn at h
  split at h
  · split at h <;> cases h
    simp [setStack, getElem?_insertAt_lt, *]
  · cases h

theorem movdn_nth {vm r : Vm} {n : Nat} (h : vm.movdn n = .ok r) :
    r.stack.getD n 0 = vm.stack.getD 0 0 := by
  unfold movdn at h
  split at h
  · split at h <;> cases h
    simp [setStack, getElem?_insertAt_self, *]
  · cases h

theorem step_noop (vm : Vm) : vm.step .noop = .ok vm := by
  simp [step, stepCore]

theorem step_drop (vm : Vm) (x : Nat) (r : List Nat) (h : vm.stack = x :: r) :
    vm.step .drop = .ok { vm with stack := pad16 r } := by
  simp [step, stepCore, h, setStack]

theorem step_advpop (vm : Vm) (x : Nat) (xs : List Nat) (h : vm.adv = x :: xs) :
    vm.step .advpop = .ok { vm with adv := xs, stack := x :: vm.stack } := by
  simp [step, stepCore, h]

theorem step_advpop_nil (vm : Vm) (h : vm.adv = []) : vm.step .advpop = .error .adviceExhausted := by
  simp [step, stepCore, h]

end Vm

/-- Parts of the machine state besides the operand stack: `mem` is the memory with the context that
    addresses it, `clk` the clock with the decoder history, `sys` the syscall flag with the caller's
    hash. -/
structure Parts where
  fmp : Bool := false
  mem : Bool := false
  adv : Bool := false
  paths : Bool := false
  clk : Bool := false
  sys : Bool := false

instance : Union Parts where
  union a b := ⟨a.fmp || b.fmp, a.mem || b.mem, a.adv || b.adv, a.paths || b.paths, a.clk || b.clk, a.sys || b.sys⟩

instance : HasSubset Parts where
  Subset a b := a ∪ b = b

def Op.parts : Op → Parts
  | .fmpadd | .fmpupdate => { fmp := true }
  | .mload | .mloadw | .mstore | .mstorew | .mstream => { mem := true }
  | .advpop | .advpopw => { adv := true }
  | .pipe => { mem := true, adv := true }
  | .mpverify | .mrupdate => { paths := true }
  | .clk => { clk := true }
  | .caller => { sys := true }
  | _ => {}

namespace Vm

/-- The stack and the parts `u` of `vm`, the rest of `w`. -/
def overlay (u : Parts) (vm w : Vm) : Vm where
  stack := vm.stack
  fmp := bif u.fmp then vm.fmp else w.fmp
  ctx := bif u.mem then vm.ctx else w.ctx
  mem := bif u.mem then vm.mem else w.mem
  adv := bif u.adv then vm.adv else w.adv
  paths := bif u.paths then vm.paths else w.paths
  clk := bif u.clk then vm.clk else w.clk
  trace := bif u.clk then vm.trace else w.trace
  inSyscall := bif u.sys then vm.inSyscall else w.inSyscall
  fnHash := bif u.sys then vm.fnHash else w.fnHash

/-- Footprint of an operation: it changes at most stack, `fmp`, memory, advice tape and Merkle paths,
    and on states that share the stack and the parts it uses it acts alike, whatever the rest. -/
theorem stepCore_overlay {op : Op} {u : Parts} (h : op.parts ⊆ u) (vm w : Vm) :
    (vm.overlay u w).stepCore op = (vm.stepCore op).map fun r =>
      overlay u { vm with stack := r.stack, fmp := r.fmp, mem := r.mem, adv := r.adv, paths := r.paths } w := by
  -- with `u` written as `op.parts ∪ u`, the fields the operation touches are `vm`'s on both sides by
  -- computation (`true || _`), so after unfolding the two sides are the same term, branch by branch
  rw [← show op.parts ∪ u = u from h]
  obtain ⟨stack, clk, ctx, fmp, ins, fnh, mem, adv, paths, trace⟩ := vm
  cases op <;>
    dsimp only [Op.parts, Union.union, or, overlay, stepCore, setStack, dup, movup, movdn, validAddr, cond_true] <;>
    (repeat' split) <;>
    rfl

theorem stepCore_ro {vm r : Vm} {op : Op} (h : vm.stepCore op = .ok r) :
    r = { vm with stack := r.stack, fmp := r.fmp, mem := r.mem, adv := r.adv, paths := r.paths } := by
  have e : vm.stepCore op = _ :=
    stepCore_overlay (u := ⟨true, true, true, true, true, true⟩)
      (by simp only [HasSubset.Subset, Union.union, Bool.or_true]) vm vm
  rw [h] at e
  exact Except.ok.inj e

/-- So the projection in `step` changes nothing. -/
theorem step_eq_stepCore (vm : Vm) (op : Op) : vm.step op = vm.stepCore op := by
  unfold step
  cases h : vm.stepCore op with
  | error e => rfl
  | ok r => rw [stepCore_ro h]

theorem step_len {vm vm' : Vm} {op : Op} (hl : 16 ≤ vm.stack.length)
    (h : vm.step op = .ok vm') : 16 ≤ vm'.stack.length :=
  stepCore_len hl ((step_eq_stepCore vm op).symm.trans h)

end Vm

theorem Mem.read_write_same (m : Mem) (ctx a : Nat) (w : Word) : (m.write ctx a w).read ctx a = w := by
  simp [Mem.read, Mem.write]

theorem Mem.read_write_other {m : Mem} {ctx a ctx' a' : Nat} {w : Word} (h : (ctx', a') ≠ (ctx, a)) :
    (m.write ctx a w).read ctx' a' = m.read ctx' a' := by
  have : ((ctx', a') == (ctx, a)) = false := by simpa using h
  simp [Mem.read, Mem.write, List.lookup, this]

theorem Mem.read_write_ne {m : Mem} {ctx a b : Nat} {w : Word} (h : a ≠ b) :
    (m.write ctx a w).read ctx b = m.read ctx b :=
  Mem.read_write_other (fun e => h (Prod.mk.inj e).2.symm)

end Miden
