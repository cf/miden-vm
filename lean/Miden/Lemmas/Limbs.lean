/-
  Numbers as lists of 32-bit limbs, least significant first: value, digits, and addition and
  subtraction limb by limb with a carry or borrow handed upwards.  `std::math::u256` add and sub
  are the instances with eight limbs (`Props/C16.lean`).
  Core Lean only.
-/
import Miden.Model.Felt
namespace Miden

def limbs : List Nat → Nat
  | [] => 0
  | x :: xs => x + two32 * limbs xs

/-- The `n` lowest digits of `v` in base 2^32. -/
def digits : Nat → Nat → List Nat
  | 0, _ => []
  | n + 1, v => v % two32 :: digits n (v / two32)

/-- Sum limbs and carry out of `xs + ys + c`. -/
def addCarry (c : Nat) : List Nat → List Nat → List Nat × Nat
  | x :: xs, y :: ys =>
    ((c + x + y) % two32 :: (addCarry ((c + x + y) / two32) xs ys).1, (addCarry ((c + x + y) / two32) xs ys).2)
  | _, _ => ([], c)

/-- Difference limbs and borrow out of `xs - ys - b`. -/
def subBorrow (b : Nat) : List Nat → List Nat → List Nat × Nat
  | x :: xs, y :: ys =>
    ((x + two32 - y - b) % two32 :: (subBorrow (1 - (x + two32 - y - b) / two32) xs ys).1,
      (subBorrow (1 - (x + two32 - y - b) / two32) xs ys).2)
  | _, _ => ([], b)

theorem limbs_lt {l : List Nat} (h : ∀ x ∈ l, x < two32) : limbs l < two32 ^ l.length := by
  induction l with
  | nil => decide
  | cons x xs ih =>
    have hx := h x List.mem_cons_self
    have := ih fun z hz => h z (List.mem_cons_of_mem x hz)
    simp only [limbs, List.length_cons, Nat.pow_succ, two32] at *
    omega

theorem addCarry_eq (c : Nat) (xs ys : List Nat) (h : xs.length = ys.length) :
    addCarry c xs ys = (digits xs.length (limbs xs + limbs ys + c),
      (limbs xs + limbs ys + c) / two32 ^ xs.length) := by
  induction xs generalizing c ys with
  | nil =>
    obtain rfl := List.length_eq_zero_iff.mp h.symm
    simp only [addCarry, digits, List.length_nil, Nat.pow_zero, Nat.div_one, limbs, Nat.zero_add]
  | cons x xs ih =>
    cases ys with
    | nil => cases h
    | cons y ys =>
      have e1 : (limbs (x :: xs) + limbs (y :: ys) + c) % two32 = (c + x + y) % two32 := by
        simp only [limbs, two32]
        omega
      have e2 : (limbs (x :: xs) + limbs (y :: ys) + c) / two32
          = limbs xs + limbs ys + (c + x + y) / two32 := by
        simp only [limbs, two32]
        omega
      rw [addCarry, ih _ _ (Nat.succ.inj h), List.length_cons, digits, e1, e2, Nat.pow_succ',
        ← Nat.div_div_eq_div_mul, e2]

theorem subBorrow_eq (b : Nat) (xs ys : List Nat) (h : xs.length = ys.length) (hb : b ≤ 1)
    (hx : ∀ x ∈ xs, x < two32) (hy : ∀ y ∈ ys, y < two32) :
    subBorrow b xs ys = (digits xs.length ((limbs xs + two32 ^ xs.length - limbs ys - b) % two32 ^ xs.length),
      1 - (limbs xs + two32 ^ xs.length - limbs ys - b) / two32 ^ xs.length) := by
  induction xs generalizing b ys with
  | nil =>
    obtain rfl := List.length_eq_zero_iff.mp h.symm
    simp only [subBorrow, digits, limbs, List.length_nil, Nat.pow_zero, Nat.div_one, Prod.mk.injEq, true_and]
    omega
  | cons x xs ih =>
    cases ys with
    | nil => cases h
    | cons y ys =>
      have hx0 := hx x List.mem_cons_self
      have hy0 := hy y List.mem_cons_self
      have hys := limbs_lt fun z hz => hy z (List.mem_cons_of_mem y hz)
      have h' := Nat.succ.inj h
      have key : limbs (x :: xs) + two32 * two32 ^ xs.length - limbs (y :: ys) - b
          = (x + two32 - y - b) % two32 + two32 * (limbs xs + two32 ^ xs.length - limbs ys
              - (1 - (x + two32 - y - b) / two32)) := by
        rw [← h'] at hys
        generalize two32 ^ xs.length = p at *
        simp only [limbs, two32] at *
        omega
      rw [subBorrow, ih _ _ h' (Nat.sub_le 1 _) (fun z hz => hx z (List.mem_cons_of_mem x hz))
        (fun z hz => hy z (List.mem_cons_of_mem y hz)), List.length_cons, digits, Nat.pow_succ',
        Nat.mod_mul_right_mod, Nat.mod_mul_right_div_self, ← Nat.div_div_eq_div_mul, key,
        Nat.add_mul_mod_self_left, Nat.mod_mod, Nat.add_mul_div_left _ _ (by decide),
        Nat.div_eq_of_lt (Nat.mod_lt _ (by decide)), Nat.zero_add]

end Miden
