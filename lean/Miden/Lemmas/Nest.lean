/-
  C13 support: the rows of a span are its operations plus alignment NOOPs / RESPAN markers, and the
  row stream of any execution is properly nested (every block start is closed by its own END).
-/
import Miden.Lemmas.Runs
import Miden.Lemmas.Batch
namespace Miden
namespace Nest
open Miden.Vm

/-- A user operation of the row stream: neither an alignment NOOP nor a RESPAN marker. -/
def keep (o : Op) : Bool := o != .noop && o != .respan

theorem keep_noop : keep .noop = false := rfl
theorem keep_respan : keep .respan = false := rfl

theorem go_filter (b : OpBatch) : ∀ (ops : List Op) (i g ng : Nat) (acc : List Op),
    (batchExecOps.go b ops i g ng acc).1.reverse.filter keep = acc.reverse.filter keep ++ ops.filter keep := by
  intro ops
  induction ops with
  | nil => intro i g ng acc; simp [batchExecOps.go]
  | cons op rest ih =>
    intro i g ng acc
    rw [batchExecOps.go]
    simp only []
    split
    · rw [ih]
      by_cases hi : op.hasImm = true
      · simp only [hi, if_true, List.reverse_cons, List.filter_append, List.filter_cons, List.filter_nil, keep_noop]
        cases keep op <;> simp
      · simp only [hi]
        cases hk : keep op <;> simp [hk]
    · rw [ih]
      simp only [List.reverse_cons, List.filter_append, List.filter_cons, List.filter_nil]
      cases keep op <;> simp

theorem batchExec_filter (b : OpBatch) : (batchExecOps b).filter keep = b.ops.filter keep := by
  unfold batchExecOps
  simp only []
  rw [List.filter_append, go_filter, List.filter_replicate, keep_noop]
  simp

/-- **The decoded user-operation stream of a span is exactly the span's operations**: dropping the
    alignment NOOPs and RESPAN markers from the rows of any span leaves its operations, in order
    (NOOPs written in the source are indistinguishable from alignment NOOPs and dropped on both sides). -/
theorem spanRows_user_ops (ops : List Op) : (spanRows ops).filter keep = ops.filter keep := by
  have hf := batchOps_flatten ops
  unfold spanRows
  generalize batchOps ops = bs at hf
  subst hf
  cases bs with
  | nil => rfl
  | cons b bs =>
    simp only [List.flatMap_cons, List.filter_append, List.filter_flatMap, List.filter_cons, keep_respan,
      Bool.false_eq_true, if_false, batchExec_filter]

theorem spanRows_mem {ops : List Op} {o : Op} (h : o ∈ spanRows ops) : o ∈ ops ∨ o = .noop ∨ o = .respan := by
  by_cases hk : keep o = true
  · left
    have : o ∈ (spanRows ops).filter keep := List.mem_filter.mpr ⟨h, hk⟩
    rw [spanRows_user_ops] at this
    exact (List.mem_filter.mp this).1
  · right
    simp only [keep, Bool.and_eq_true, bne_iff_ne, ne_eq, not_and, Classical.not_not] at hk
    by_cases h1 : o = .noop
    · exact Or.inl h1
    · exact Or.inr (hk h1)

/-- Nesting depth after one row; `none` when an END has nothing to close. -/
def nestStep (d : Nat) : Op → Option Nat
  | .join | .split | .loop | .call | .syscall | .dyn | .span => some (d + 1)
  | .end => if d = 0 then none else some (d - 1)
  | _ => some d

/-- Nesting depth after a row sequence started at depth `d`; `none` if some END closes nothing. -/
def nest : List Op → Nat → Option Nat
  | [], d => some d
  | o :: l, d => (nestStep d o).bind (nest l)

theorem nest_append (l1 l2 : List Op) : ∀ d, nest (l1 ++ l2) d = (nest l1 d).bind (nest l2) := by
  induction l1 with
  | nil => intro d; rfl
  | cons o l ih =>
    intro d
    simp only [List.cons_append, nest]
    cases nestStep d o with
    | none => rfl
    | some d' => exact ih d'

theorem nestStep_plain {o : Op} (h : o.isControl = false) (d : Nat) : nestStep d o = some d := by
  cases o <;> first | rfl | (simp [Op.isControl] at h)

theorem nest_plain {l : List Op} (h : ∀ o ∈ l, o.isControl = false ∨ o = .respan) : ∀ d, nest l d = some d := by
  induction l with
  | nil => intro d; rfl
  | cons o l ih =>
    intro d
    have ho : nestStep d o = some d := by
      rcases h o (List.mem_cons_self) with h1 | h1
      · exact nestStep_plain h1 d
      · subst h1
        rfl
    simp only [nest, ho, Option.bind_some]
    exact ih (fun o' ho' => h o' (List.mem_cons_of_mem _ ho')) d

/-- No span holds a control operation (what `Span::new` is given by the assembler). -/
def clean : Block → Bool
  | .span ops => ops.all (fun o => !o.isControl)
  | .join a b => clean a && clean b
  | .split t f => clean t && clean f
  | .loop b => clean b
  | _ => true

def EnvClean (env : Env) : Prop := ∀ t b, env.cbTable.lookup t = some b → clean b = true

theorem nest_spanRows {ops : List Op} (h : clean (.span ops) = true) (d : Nat) : nest (spanRows ops) d = some d := by
  apply nest_plain
  intro o ho
  rcases spanRows_mem ho with h1 | h1 | h1
  · left
    simp only [clean, List.all_eq_true, Bool.not_eq_true'] at h
    exact h o h1
  · left
    subst h1
    rfl
  · right
    exact h1

theorem nest_one (o : Op) (d : Nat) : nest [o] d = nestStep d o := by
  simp only [nest]
  cases nestStep d o <;> rfl

/-- Rows that bring the nesting depth back to where it started, from any depth. -/
def Balanced (l : List Op) : Prop := ∀ d, nest l d = some d

theorem Balanced.append {l1 l2 : List Op} (h1 : Balanced l1) (h2 : Balanced l2) : Balanced (l1 ++ l2) := by
  intro d
  rw [nest_append, h1 d, Option.bind_some, h2 d]

theorem nest_close {o : Op} {l lt : List Op} {c d : Nat} (ho : nestStep c o = some (d + 1))
    (h : Balanced l) (ht : nest lt (d + 1) = some d) : nest ([o] ++ l ++ lt) c = some d := by
  rw [nest_append, nest_append, nest_one, ho, Option.bind_some, h (d + 1), Option.bind_some, ht]

theorem Balanced.block {o : Op} {l : List Op} (ho : ∀ d, nestStep d o = some (d + 1)) (h : Balanced l) :
    Balanced ([o] ++ l ++ [Op.end]) :=
  fun d => nest_close (ho d) h rfl

theorem nestStep_callRow (sc : Bool) (d : Nat) : nestStep d (if sc then Op.syscall else Op.call) = some (d + 1) := by
  cases sc <;> rfl

mutual
theorem runs_nest {env : Env} (he : EnvClean env) : ∀ {b : Block} {l : List Op}, Runs env b l → clean b = true →
    ∀ d, nest l d = some d
  | _, _, .span ops, hc => Balanced.block (fun _ => rfl) (nest_spanRows hc)
  | _, _, @Runs.join _ a b la lb ha hb, hc => by
    have hc' : clean a = true ∧ clean b = true := by simpa [clean] using hc
    rw [List.append_assoc [Op.join]]
    exact Balanced.block (fun _ => rfl) (Balanced.append (runs_nest he ha hc'.1) (runs_nest he hb hc'.2))
  | _, _, @Runs.splitT _ t f l h, hc => by
    have hc' : clean t = true ∧ clean f = true := by simpa [clean] using hc
    exact Balanced.block (fun _ => rfl) (runs_nest he h hc'.1)
  | _, _, @Runs.splitF _ t f l h, hc => by
    have hc' : clean t = true ∧ clean f = true := by simpa [clean] using hc
    exact Balanced.block (fun _ => rfl) (runs_nest he h hc'.2)
  | _, _, .loopSkip body, _ => fun _ => rfl
  | _, _, @Runs.loopEnter _ body l lt h ht, hc => by
    have hc' : clean body = true := by simpa [clean] using hc
    exact fun d => nest_close rfl (runs_nest he h hc') (tail_nest he ht hc' d)
  | _, _, .call hl h, _ => Balanced.block (nestStep_callRow _) (runs_nest he h (he _ _ hl))
  | _, _, .dyncall _ h, _ => Balanced.block (nestStep_callRow _) (dyn_nest he h)
  | _, _, .dyn h, _ => dyn_nest he h
theorem dyn_nest {env : Env} (he : EnvClean env) : ∀ {l : List Op}, DynRuns env l → ∀ d, nest l d = some d
  | _, .mk hl h => Balanced.block (fun _ => rfl) (runs_nest he h (he _ _ hl))
theorem tail_nest {env : Env} (he : EnvClean env) : ∀ {body : Block} {l : List Op}, LoopTail env body l →
    clean body = true → ∀ d, nest l (d + 1) = some d
  | _, _, .done body, _, _ => rfl
  | _, _, @LoopTail.again _ body l lt h ht, hc, d =>
    nest_close rfl (runs_nest he h hc) (tail_nest he ht hc d)
end

end Nest
end Miden
