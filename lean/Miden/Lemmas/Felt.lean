/-
  Arithmetic of the field model (`Miden.Model.Felt`: canonical naturals below `P`): identities of `fadd`,
  `fsub`, `fneg`, `fmul`, and the cases in which a field operation is the integer one.  Core Lean only.
-/
import Miden.Model.Felt
namespace Miden

theorem fadd_small (f k : Nat) (h : f + k < P) : fadd f k = f + k := Nat.mod_eq_of_lt h

theorem fadd_fneg (a b : Nat) : fadd a (fneg b) = fsub a b := by
  unfold fadd fneg fsub
  rw [Nat.add_mod, Nat.mod_mod, ← Nat.add_mod]

theorem P_pos : 0 < P := by decide

theorem fadd_comm (a b : Nat) : fadd a b = fadd b a := by
  unfold fadd
  rw [Nat.add_comm]

theorem fadd_fadd (a b c : Nat) : fadd (fadd a b) c = fadd a (b + c) := by
  unfold fadd
  rw [Nat.mod_add_mod, Nat.add_assoc]

theorem fadd_zero {a : Nat} (h : a < P) : fadd a 0 = a := Nat.mod_eq_of_lt h

theorem zero_fadd {a : Nat} (h : a < P) : fadd 0 a = a := by
  rw [fadd_comm, fadd_zero h]

theorem fsub_zero {a : Nat} (h : a < P) : fsub a 0 = a := by
  unfold fsub
  rw [Nat.zero_mod, Nat.sub_zero, Nat.add_mod_right, Nat.mod_eq_of_lt h]

theorem fmul_one {a : Nat} (h : a < P) : fmul a 1 = a := by
  unfold fmul
  rw [Nat.mul_one, Nat.mod_eq_of_lt h]

theorem fneg_succ (k : Nat) (hk : k + 1 < P) : fadd (fneg (k + 1)) 1 = fneg k := by
  simp only [fadd, fneg, P] at *
  omega

theorem fneg_eq_zero (k : Nat) (hk : k < P) : fneg k = 0 ↔ k = 0 := by
  simp only [fneg, P] at *
  omega

/-- `c = P + j - k` is `-(k - j)` in the field: added to `f + k` it gives `f + j` (how the assembler
    addresses local `j` from the frame pointer `f + k`). -/
theorem fadd_back {f k j c : Nat} (h : f + k < 4294967296) (hc : c + k = P + j) (hj : j ≤ k := by decide) :
    fadd (f + k) c = f + j := by
  simp only [fadd, P] at *
  omega

end Miden
