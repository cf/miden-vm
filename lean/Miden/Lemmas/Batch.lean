/-
  The batching algorithm (`Miden.Model.Batch`) and the decoding of its groups (C08).
  `codesOf groups counts` reads `counts[i]` seven-bit opcodes out of every group `i` (groups holding
  immediates have count 0).  One invariant of the accumulator, `Acc.Inv`, is pushed once through
  `finalizeGroup`, the write of an immediate and `pushOp`; every batch `batchOps` produces is a
  reachable accumulator turned into a batch (`batchOps_mem`), so each statement about finished
  batches is a projection of `Acc.Inv.intoBatch`.
-/
import Miden.Model.Batch
namespace Miden

/-- Structural well-formedness of a batch as the executor and the hasher assume it. -/
def OpBatch.WF (b : OpBatch) : Prop :=
  b.groups.length = 8 ∧ b.opCounts.length = 8 ∧ 1 ≤ b.numGroups ∧ b.numGroups ≤ 8 ∧
  (∀ c ∈ b.opCounts, c ≤ 9)

/-- Opcodes read from the eight groups of a batch, `counts[i]` of them from group `i`, in group order. -/
def codesOf (groups counts : List Nat) : List Nat :=
  (List.range 8).flatMap (fun i => decodeGroup (counts.getD i 0) (groups.getD i 0))

/-- Values of the groups that hold immediates: the groups below `n` that are neither finalised
    operation groups (count ≠ 0) nor the group `cur` that is being filled. -/
def immsOf (groups counts : List Nat) (n cur : Nat) : List Nat :=
  ((List.range n).filter (fun i => counts.getD i 0 = 0 ∧ i ≠ cur)).map (fun i => groups.getD i 0)

theorem decodeGroup_append : ∀ (n k g h : Nat), g < 128 ^ n →
    decodeGroup (n + k) (g + h * 128 ^ n) = decodeGroup n g ++ decodeGroup k h
  | 0, k, g, h, hg => by
    have : g = 0 := by simpa using hg
    simp [this, decodeGroup]
  | n + 1, k, g, h, hg => by
    have h1 : (g + h * 128 ^ (n + 1)) % 128 = g % 128 := by
      rw [Nat.pow_succ, ← Nat.mul_assoc]
      exact Nat.add_mul_mod_self_right _ _ _
    have h2 : (g + h * 128 ^ (n + 1)) / 128 = g / 128 + h * 128 ^ n := by
      rw [Nat.pow_succ, ← Nat.mul_assoc]
      exact Nat.add_mul_div_right _ _ (by decide)
    have h3 : g / 128 < 128 ^ n := by
      rw [Nat.div_lt_iff_lt_mul (by decide), ← Nat.pow_succ]
      exact hg
    rw [Nat.add_right_comm, decodeGroup, h1, h2, decodeGroup_append n k _ h h3]
    rfl

theorem decodeGroup_zero : ∀ k, decodeGroup k 0 = List.replicate k 0
  | 0 => rfl
  | k + 1 => by rw [decodeGroup, decodeGroup_zero k]; rfl

theorem decodeGroup_snoc : ∀ (n g c : Nat), g < 128 ^ n → c < 128 →
    decodeGroup (n + 1) (g + c * 128 ^ n) = decodeGroup n g ++ [c] := by
  intro n g c hg hc
  rw [decodeGroup_append n 1 g c hg, decodeGroup, decodeGroup, Nat.mod_eq_of_lt hc]

/-- The slots of a group beyond its operation count decode to opcode 0 (NOOP). -/
theorem decodeGroup_pad : ∀ (n k g : Nat), g < 128 ^ n →
    decodeGroup (n + k) g = decodeGroup n g ++ List.replicate k 0 := by
  intro n k g hg
  have := decodeGroup_append n k g 0 hg
  rwa [Nat.zero_mul, Nat.add_zero, decodeGroup_zero] at this

theorem snoc_bound (n g c : Nat) (hg : g < 128 ^ n) (hc : c < 128) : g + c * 128 ^ n < 128 ^ (n + 1) := by
  have : (c + 1) * 128 ^ n ≤ 128 * 128 ^ n := Nat.mul_le_mul_right _ (by omega)
  rw [Nat.pow_succ, Nat.mul_comm (128 ^ n) 128]
  rw [Nat.add_mul, Nat.one_mul] at this
  omega

theorem Op.code_lt (op : Op) : op.code < 128 := by
  -- evaluated constructor by constructor; `decide` refuses the three that carry a parameter
  cases op <;> exact Nat.le_of_ble_eq_true rfl

theorem Op.hasImm_eq (op : Op) : op.hasImm = op.imm.isSome := by cases op <;> rfl

theorem getD_set_ne (l : List Nat) {j i : Nat} (v : Nat) (h : j ≠ i) : (l.set j v).getD i 0 = l.getD i 0 := by
  simp [List.getD_eq_getElem?_getD, List.getElem?_set_ne h]

theorem getD_set_eq (l : List Nat) {j : Nat} (v : Nat) (h : j < l.length) : (l.set j v).getD j 0 = v := by
  simp [List.getD_eq_getElem?_getD, List.getElem?_set_self h]

theorem getD_le_of_forall {l : List Nat} {n : Nat} (h : ∀ c ∈ l, c ≤ n) (i : Nat) : l.getD i 0 ≤ n := by
  rw [List.getD_eq_getElem?_getD]
  cases hi : l[i]? with
  | none => exact Nat.zero_le _
  | some c => exact h c (List.mem_of_getElem? hi)

theorem getD_replicate_zero (n i : Nat) : (List.replicate n 0).getD i 0 = 0 := by
  rw [List.getD_eq_getElem?_getD, List.getElem?_replicate]
  split <;> rfl

theorem flatMap_congr {α β : Type} {f g : α → List β} {l : List α} (h : ∀ i ∈ l, f i = g i) :
    l.flatMap f = l.flatMap g := by
  rw [List.flatMap_def, List.flatMap_def, List.map_congr_left h]

/-- Changing `f` at the one index `j`, beyond which `f` is empty, appends `g j`. -/
theorem flatMap_range_update {α : Type} (f g : Nat → List α) (j : Nat) (hfg : ∀ i, j ≠ i → g i = f i)
    (hz : ∀ i, j ≤ i → f i = []) : ∀ n, j < n →
    (List.range n).flatMap g = (List.range n).flatMap f ++ g j
  | n + 1, hj => by
    rw [List.range_succ, List.flatMap_append, List.flatMap_append, List.flatMap_singleton,
      List.flatMap_singleton]
    by_cases e : j = n
    · subst e
      rw [hz j (Nat.le_refl _), List.append_nil]
      congr 1
      exact flatMap_congr (fun i hi => hfg i (by have := List.mem_range.mp hi; omega))
    · rw [flatMap_range_update f g j hfg hz n (by omega), hfg n e, hz n (by omega), List.append_nil,
        List.append_nil]

theorem codesOf_set (groups counts : List Nat) (hg : groups.length = 8) (hc : counts.length = 8)
    (j c v : Nat) (hj : j < 8) (hz : ∀ i, j ≤ i → counts.getD i 0 = 0) :
    codesOf (groups.set j v) (counts.set j c) = codesOf groups counts ++ decodeGroup c v := by
  unfold codesOf
  rw [flatMap_range_update (fun i => decodeGroup (counts.getD i 0) (groups.getD i 0)) _ j ?_ ?_ 8 hj]
  · simp only [getD_set_eq _ _ (hg ▸ hj), getD_set_eq _ _ (hc ▸ hj)]
  · intro i hi
    simp only [getD_set_ne _ _ hi]
  · intro i hi
    simp only [hz i hi, decodeGroup]

theorem codesOf_set_imm (groups counts : List Nat) (j v : Nat) (hz : counts.getD j 0 = 0) :
    codesOf (groups.set j v) counts = codesOf groups counts := by
  refine flatMap_congr (fun i _ => ?_)
  by_cases e : j = i
  · subst e
    simp only [hz, decodeGroup]
  · rw [getD_set_ne _ _ e]

/-- Two accumulators have the same immediates if, below `n`, the same groups count as immediate groups
    and those hold the same values. -/
theorem immsOf_congr (g g' c c' : List Nat) (n cur cur' : Nat)
    (h : ∀ i, i < n → (g.getD i 0 = g'.getD i 0 ∨ ¬ (c.getD i 0 = 0 ∧ i ≠ cur)) ∧
      ((c.getD i 0 = 0 ∧ i ≠ cur) ↔ (c'.getD i 0 = 0 ∧ i ≠ cur'))) :
    immsOf g c n cur = immsOf g' c' n cur' := by
  unfold immsOf
  rw [← List.filter_congr (fun i hi => decide_eq_decide.mpr (h i (List.mem_range.mp hi)).2)]
  refine List.map_congr_left (fun i hi => ?_)
  obtain ⟨hr, hp⟩ := List.mem_filter.mp hi
  exact (h i (List.mem_range.mp hr)).1.resolve_right (fun x => x (of_decide_eq_true hp))

theorem immsOf_succ (g c : List Nat) (n cur : Nat) :
    immsOf g c (n + 1) cur = immsOf g c n cur ++ (if c.getD n 0 = 0 ∧ n ≠ cur then [g.getD n 0] else []) := by
  unfold immsOf
  rw [List.range_succ, List.filter_append, List.map_append]
  congr 1
  by_cases e : c.getD n 0 = 0 ∧ n ≠ cur
  · rw [if_pos e]
    simp only [List.filter_cons, List.filter_nil, decide_eq_true e, if_true, List.map_cons, List.map_nil]
  · rw [if_neg e]
    simp only [List.filter_cons, List.filter_nil, decide_eq_false e, Bool.false_eq_true, if_false, List.map_nil]

/-- The immediates stay: on the right `j` is excluded as the current group, on the left by its
    non-zero count. -/
theorem immsOf_set_cur (g c : List Nat) (j k v n : Nat) (hj : j < c.length) (hk : k ≠ 0) :
    immsOf (g.set j v) (c.set j k) n n = immsOf g c n j := by
  apply immsOf_congr
  intro i hi
  by_cases e : j = i
  · subst e
    rw [getD_set_eq _ _ hj]
    exact ⟨Or.inr (fun x => hk x.1), fun x => absurd x.1 hk, fun x => absurd rfl x.2⟩
  · rw [getD_set_ne _ _ e, getD_set_ne _ _ e]
    exact ⟨Or.inl rfl, fun x => ⟨x.1, fun y => e y.symm⟩, fun x => ⟨x.1, by omega⟩⟩

/-- Every finalised operation group holds exactly `count` opcodes: the remaining slots are zero. -/
def PadOk (groups counts : List Nat) : Prop :=
  ∀ i, counts.getD i 0 ≠ 0 → groups.getD i 0 < 128 ^ counts.getD i 0

/-- What the numbers of the accumulator encode: nothing is finalised from the current group on, the
    finalised groups followed by the `opIdx` opcodes of the current group value decode to `cs`, and
    the groups that hold immediates hold `imms`.  It speaks of `cs` and `imms` and not of `a.ops`
    because inside `addOp` the two disagree: after `placeImm` the immediate is in its group while the
    operation is not yet in `ops`.  `Reach.inv` puts `ops` back in. -/
structure Acc.Inv (a : Acc) (cs imms : List Nat) : Prop where
  groups_len : a.groups.length = 8
  counts_len : a.opCounts.length = 8
  opIdx_le : a.opIdx ≤ 9
  cur_lt : a.groupIdx < a.nextGroupIdx
  next_le : a.nextGroupIdx ≤ 8
  count_le : ∀ c ∈ a.opCounts, c ≤ 9
  count_zero : ∀ i, a.groupIdx ≤ i → a.opCounts.getD i 0 = 0
  group_lt : a.group < 128 ^ a.opIdx
  codes : codesOf a.groups a.opCounts ++ decodeGroup a.opIdx a.group = cs
  pad : PadOk a.groups a.opCounts
  imms_eq : immsOf a.groups a.opCounts a.nextGroupIdx a.groupIdx = imms

theorem Acc.finalize_opIdx (a : Acc) : a.finalizeGroup.opIdx = 0 := rfl
theorem Acc.finalize_ops (a : Acc) : a.finalizeGroup.ops = a.ops := rfl

namespace Acc
variable {a : Acc} {cs imms : List Nat}

theorem Inv.init : Inv {} [] [] where
  groups_len := rfl
  counts_len := rfl
  opIdx_le := by decide
  cur_lt := by decide
  next_le := by decide
  count_le := fun c hc => by rw [List.eq_of_mem_replicate hc]; decide
  count_zero := fun i _ => getD_replicate_zero 8 i
  group_lt := by decide
  codes := by decide
  pad := fun i hi => absurd (getD_replicate_zero 8 i) hi
  imms_eq := by decide

/-- The four facts about `groups.set groupIdx group` / `opCounts.set groupIdx opIdx` that both
    `finalizeGroup` and `intoBatch` need. -/
theorem Inv.set_cur (h : a.Inv cs imms) :
    (∀ c ∈ a.opCounts.set a.groupIdx a.opIdx, c ≤ 9) ∧
    codesOf (a.groups.set a.groupIdx a.group) (a.opCounts.set a.groupIdx a.opIdx) = cs ∧
    PadOk (a.groups.set a.groupIdx a.group) (a.opCounts.set a.groupIdx a.opIdx) ∧
    (a.opIdx ≠ 0 → immsOf (a.groups.set a.groupIdx a.group) (a.opCounts.set a.groupIdx a.opIdx)
      a.nextGroupIdx a.nextGroupIdx = imms) := by
  have hcur := h.cur_lt
  have hnext := h.next_le
  refine ⟨?_, ?_, ?_, ?_⟩
  · intro c hc
    rcases List.mem_or_eq_of_mem_set hc with h1 | h1
    · exact h.count_le c h1
    · rw [h1]
      exact h.opIdx_le
  · rw [codesOf_set _ _ h.groups_len h.counts_len _ _ _ (by omega) h.count_zero]
    exact h.codes
  · intro i hi
    by_cases e : a.groupIdx = i
    · subst e
      rw [getD_set_eq _ _ (by rw [h.groups_len]; omega), getD_set_eq _ _ (by rw [h.counts_len]; omega)]
      exact h.group_lt
    · rw [getD_set_ne _ _ e] at hi ⊢
      rw [getD_set_ne _ _ e]
      exact h.pad i hi
  · intro h0
    rw [immsOf_set_cur _ _ _ _ _ _ (by rw [h.counts_len]; omega) h0]
    exact h.imms_eq

theorem Inv.finalize (h : a.Inv cs imms) (hn : a.nextGroupIdx < 8) (h0 : a.opIdx ≠ 0) :
    a.finalizeGroup.Inv cs imms := by
  obtain ⟨s1, s2, s3, s4⟩ := h.set_cur
  have hcur := h.cur_lt
  exact {
    groups_len := by simp [finalizeGroup, h.groups_len]
    counts_len := by simp [finalizeGroup, h.counts_len]
    opIdx_le := Nat.zero_le _
    cur_lt := Nat.lt_succ_self _
    next_le := hn
    count_le := s1
    count_zero := fun i (hi : a.nextGroupIdx ≤ i) => by
      show (a.opCounts.set a.groupIdx a.opIdx).getD i 0 = 0
      rw [getD_set_ne _ _ (by omega)]
      exact h.count_zero i (by omega)
    group_lt := Nat.one_pos
    codes := by
      show codesOf (a.groups.set a.groupIdx a.group) (a.opCounts.set a.groupIdx a.opIdx) ++ [] = cs
      rw [List.append_nil, s2]
    pad := s3
    imms_eq := by
      show immsOf (a.groups.set a.groupIdx a.group) (a.opCounts.set a.groupIdx a.opIdx)
        (a.nextGroupIdx + 1) a.nextGroupIdx = imms
      rw [immsOf_succ, if_neg (fun x => x.2 rfl), List.append_nil]
      exact s4 h0 }

theorem Inv.writeImm (h : a.Inv cs imms) (v : Nat) (hn : a.nextGroupIdx < 8) :
    Inv { a with groups := a.groups.set a.nextGroupIdx v, nextGroupIdx := a.nextGroupIdx + 1 }
      cs (imms ++ [v]) := by
  have hcur := h.cur_lt
  have hz : a.opCounts.getD a.nextGroupIdx 0 = 0 := h.count_zero _ (by omega)
  exact { h with
    groups_len := by simp [h.groups_len]
    cur_lt := Nat.lt_succ_of_lt h.cur_lt
    next_le := hn
    codes := by
      show codesOf (a.groups.set a.nextGroupIdx v) a.opCounts ++ _ = cs
      rw [codesOf_set_imm _ _ _ _ hz]
      exact h.codes
    pad := fun i (hi : a.opCounts.getD i 0 ≠ 0) => by
      show (a.groups.set a.nextGroupIdx v).getD i 0 < 128 ^ a.opCounts.getD i 0
      rw [getD_set_ne _ _ (fun e => hi (by rw [← e]; exact hz))]
      exact h.pad i hi
    imms_eq := by
      show immsOf (a.groups.set a.nextGroupIdx v) a.opCounts (a.nextGroupIdx + 1) a.groupIdx = imms ++ [v]
      rw [immsOf_succ, if_pos ⟨hz, by omega⟩, getD_set_eq _ _ (by rw [h.groups_len]; exact hn), ← h.imms_eq]
      congr 1
      exact immsOf_congr _ _ _ _ _ _ _ (fun i hi => ⟨Or.inl (getD_set_ne _ _ (by omega)), Iff.rfl⟩) }

theorem Inv.pushOp (h : a.Inv cs imms) (op : Op) (h8 : a.opIdx ≤ 8) :
    (a.pushOp op).Inv (cs ++ [op.code]) imms :=
  { h with
    opIdx_le := Nat.succ_le_succ h8
    group_lt := by
      show a.group + op.code * 2 ^ (7 * a.opIdx) < 128 ^ (a.opIdx + 1)
      rw [Nat.pow_mul]
      exact snoc_bound _ _ _ h.group_lt (Op.code_lt op)
    codes := by
      show codesOf a.groups a.opCounts ++ decodeGroup (a.opIdx + 1) (a.group + op.code * 2 ^ (7 * a.opIdx)) = _
      rw [Nat.pow_mul, decodeGroup_snoc _ _ _ h.group_lt (Op.code_lt op), ← List.append_assoc, h.codes] }

/-- The only use of `canAccept` is that there is room for the groups `addOp` opens. -/
theorem Inv.addOp (h : a.Inv cs imms) (op : Op) (hc : a.canAccept op = true) :
    (a.addOp op).Inv (cs ++ [op.code]) (imms ++ op.imm.toList) := by
  have h9 := h.opIdx_le
  unfold canAccept at hc
  rw [Op.hasImm_eq] at hc
  unfold Acc.addOp startGroupIfFull
  cases hi : op.imm with
  | none =>
    rw [hi] at hc
    simp only [Option.isSome_none, Bool.false_eq_true, if_false, Bool.or_eq_true, decide_eq_true_eq] at hc
    simp only [Option.toList_none, List.append_nil]
    split
    · exact (h.finalize (by omega) (by omega)).pushOp op (Nat.zero_le _)
    · exact h.pushOp op (by omega)
  | some v =>
    rw [hi] at hc
    simp only [Option.isSome_some, if_true] at hc
    simp only [Option.toList_some, placeImm]
    split
    · rename_i e9
      have hn : a.nextGroupIdx + 1 < 8 := by simpa [e9] using hc
      rw [if_neg (by simp [finalizeGroup])]
      exact ((h.finalize (by omega) (by omega)).writeImm v hn).pushOp op (Nat.zero_le _)
    · split
      · rename_i e8
        have hn : a.nextGroupIdx + 1 < 8 := by simpa [e8] using hc
        exact ((h.finalize (by omega) (by omega)).writeImm v hn).pushOp op (Nat.zero_le _)
      · have hn : a.nextGroupIdx < 8 := by
          have : a.opIdx < 8 := by omega
          simpa [this] using hc
        exact (h.writeImm v hn).pushOp op (by show a.opIdx ≤ 8; omega)

theorem Inv.intoBatch (h : a.Inv cs imms) :
    a.intoBatch.WF ∧ codesOf a.intoBatch.groups a.intoBatch.opCounts = cs ∧
    PadOk a.intoBatch.groups a.intoBatch.opCounts ∧
    (a.opIdx ≠ 0 → immsOf a.intoBatch.groups a.intoBatch.opCounts a.intoBatch.numGroups
      a.intoBatch.numGroups = imms) := by
  obtain ⟨s1, s2, s3, s4⟩ := h.set_cur
  have h1 : 1 ≤ a.nextGroupIdx := Nat.lt_of_le_of_lt (Nat.zero_le _) h.cur_lt
  unfold Acc.intoBatch
  split
  · rename_i e
    exact ⟨⟨by simp [h.groups_len], by simp [h.counts_len], h1, h.next_le, s1⟩, s2, s3, s4⟩
  · rename_i e
    have e0 : a.opIdx = 0 := Decidable.byContradiction (fun x => e (Or.inr x))
    refine ⟨⟨h.groups_len, h.counts_len, h1, h.next_le, h.count_le⟩, ?_, h.pad, fun x => absurd e0 x⟩
    have := h.codes
    rwa [e0, decodeGroup, List.append_nil] at this

theorem startGroupIfFull_ops (a : Acc) : a.startGroupIfFull.ops = a.ops := by
  unfold startGroupIfFull
  split <;> rfl

theorem placeImm_ops (a : Acc) (v : Nat) : (a.placeImm v).ops = a.ops := by
  unfold placeImm
  split <;> rfl

theorem addOp_ops (a : Acc) (op : Op) : (a.addOp op).ops = op :: a.ops := by
  unfold Acc.addOp
  cases op.imm <;> simp [pushOp, placeImm_ops, startGroupIfFull_ops]

theorem intoBatch_ops (a : Acc) : a.intoBatch.ops = a.ops.reverse := by
  unfold Acc.intoBatch
  split <;> rfl

theorem init_accepts (op : Op) : ({} : Acc).canAccept op = true := by
  unfold canAccept
  cases op.hasImm <;> decide

/-- The accumulators `batchLoop` holds: the empty one, and any reached by accepted additions. -/
inductive Reach : Acc → Prop
  | init : Reach {}
  | add {a : Acc} {op : Op} : Reach a → a.canAccept op = true → Reach (a.addOp op)

theorem Reach.inv : ∀ {a : Acc}, Reach a →
    a.Inv (a.ops.reverse.map Op.code) (a.ops.reverse.filterMap Op.imm) ∧ (a.ops ≠ [] → a.opIdx ≠ 0)
  | _, .init => ⟨Inv.init, fun h => absurd rfl h⟩
  | _, @Reach.add a op r hc => by
    refine ⟨?_, fun _ => Nat.succ_ne_zero _⟩
    have := r.inv.1.addOp op hc
    rw [addOp_ops, List.reverse_cons, List.map_append, List.filterMap_append]
    cases hi : op.imm <;> simpa [hi] using this

theorem Reach.ops_ne {a : Acc} {op : Op} (r : Reach a) (hc : ¬ a.canAccept op = true) : a.ops ≠ [] := by
  cases r with
  | init => exact absurd (init_accepts op) hc
  | add r _ => rw [addOp_ops]; exact List.cons_ne_nil _ _

end Acc

theorem batchLoop_mem {b : OpBatch} : ∀ (ops : List Op) (acc : Acc) (done : List OpBatch), acc.Reach →
    b ∈ batchLoop ops acc done → b ∈ done ∨ ∃ a : Acc, a.Reach ∧ a.ops ≠ [] ∧ b = a.intoBatch
  | [], acc, done, r, hb => by
    unfold batchLoop at hb
    split at hb
    · exact Or.inl (by simpa using hb)
    · rename_i he
      simp only [List.mem_reverse, List.mem_cons] at hb
      exact hb.elim (fun hb => Or.inr ⟨acc, r, by simpa using he, hb⟩) Or.inl
  | op :: rest, acc, done, r, hb => by
    unfold batchLoop at hb
    split at hb
    · rename_i hc
      exact batchLoop_mem rest _ done (r.add hc) hb
    · rename_i hc
      rcases batchLoop_mem rest _ _ (Acc.Reach.init.add (Acc.init_accepts op)) hb with h | h
      · exact (List.mem_cons.mp h).elim (fun h => Or.inr ⟨acc, r, r.ops_ne hc, h⟩) Or.inl
      · exact Or.inr h

theorem batchOps_mem {ops : List Op} {b : OpBatch} (hb : b ∈ batchOps ops) :
    ∃ a : Acc, a.Inv (b.ops.map Op.code) (b.ops.filterMap Op.imm) ∧ a.opIdx ≠ 0 ∧ b.ops ≠ [] ∧
      b = a.intoBatch := by
  rcases batchLoop_mem ops {} [] Acc.Reach.init hb with h | ⟨a, r, hne, rfl⟩
  · cases h
  · rw [Acc.intoBatch_ops]
    exact ⟨a, r.inv.1, r.inv.2 hne, by simpa using hne, rfl⟩

theorem batchLoop_flatten : ∀ (ops : List Op) (acc : Acc) (done : List OpBatch),
    (batchLoop ops acc done).flatMap (·.ops)
      = done.reverse.flatMap (·.ops) ++ acc.ops.reverse ++ ops
  | [], acc, done => by
    unfold batchLoop
    split
    · rename_i he
      have : acc.ops = [] := by simpa using he
      simp [this]
    · simp [Acc.intoBatch_ops]
  | op :: rest, acc, done => by
    unfold batchLoop
    split
    · rw [batchLoop_flatten rest, Acc.addOp_ops]
      simp
    · rw [batchLoop_flatten rest, Acc.addOp_ops]
      simp [Acc.intoBatch_ops]

theorem batchOps_flatten (ops : List Op) : (batchOps ops).flatMap (·.ops) = ops := by
  unfold batchOps
  rw [batchLoop_flatten ops {} []]
  rfl

theorem batchOps_wf (ops : List Op) : ∀ b ∈ batchOps ops, OpBatch.WF b := by
  intro b hb
  obtain ⟨a, h, _, _, rfl⟩ := batchOps_mem hb
  exact h.intoBatch.1

end Miden
