/-
  Clock erasure: operations other than CLK do not depend on the clock or on the decoder history
  (`step_reclk`), so a span that does not read the clock runs, up to clock and history, like its
  tick-free operation list, and completes exactly when that run succeeds and the cycle budget allows
  its rows (`exec_span_ok_iff`).  Lets theorems about procedures be proved on `runOps` / `runM` /
  `runPure` and transported to the executor `Vm.exec`.
-/
import Miden.Lemmas.RunOps
import Miden.Lemmas.Exec
namespace Miden

theorem Op.parts_of_ne_clk {op : Op} (h : op ≠ .clk) :
    op.parts ⊆ { fmp := true, mem := true, adv := true, paths := true, sys := true } := by
  cases op <;> first | rfl | exact absurd rfl h

theorem step_reclk (vm : Vm) (op : Op) (c : Nat) (t : List Op) (h : op ≠ .clk) :
    (vm.reclk c t).step op = (vm.step op).map (fun r => r.reclk c t) := by
  rw [Vm.step_eq_stepCore, Vm.step_eq_stepCore,
    show (vm.reclk c t).stepCore op = _ from Vm.stepCore_overlay (Op.parts_of_ne_clk h) vm (vm.reclk c t)]
  cases hr : vm.stepCore op with
  | error e => rfl
  | ok r => exact congrArg (fun x : Vm => Except.ok (x.reclk c t)) (Vm.stepCore_ro hr).symm

@[simp] theorem reclk_reclk (vm : Vm) (c c' : Nat) (t t' : List Op) :
    (vm.reclk c t).reclk c' t' = vm.reclk c' t' := rfl

theorem runOps_reclk : ∀ (ops : List Op) (vm : Vm) (c : Nat) (t : List Op), Op.clk ∉ ops →
    runOps ops (vm.reclk c t) = (runOps ops vm).map (fun r => r.reclk c t)
  | [], vm, c, t, _ => rfl
  | op :: rest, vm, c, t, hc => by
    have hop : op ≠ .clk := fun e => hc (by simp [e])
    have hrest : Op.clk ∉ rest := fun e => hc (by simp [e])
    simp only [runOps, step_reclk vm op c t hop]
    cases hs : vm.step op with
    | error e => rfl
    | ok s1 => exact runOps_reclk rest s1 c t hrest

def deRespan (rows : List Op) : List Op := rows.map (fun o => if o = Op.respan then Op.noop else o)

theorem deRespan_length (rows : List Op) : (deRespan rows).length = rows.length := List.length_map _

/-- What the proofs need to know of a span, decided once per span: the rows it executes (RESPAN as
    NOOP), that none of them reads the clock, and that all of them act on the view `p` only. -/
def SpanFacts (p : Op → Bool) (ops rows : List Op) : Prop :=
  deRespan (spanRows ops) = rows ∧ Op.clk ∉ spanRows ops ∧ rows.all p = true

instance (p : Op → Bool) (ops rows : List Op) : Decidable (SpanFacts p ops rows) :=
  inferInstanceAs (Decidable (_ ∧ _ ∧ _))

theorem SpanFacts.all_rows {p : Op → Bool} {ops rows : List Op} (h : SpanFacts p ops rows) :
    (deRespan (spanRows ops)).all p = true := by
  rw [h.1]
  exact h.2.2

open Vm

theorem clk_not_mem_deRespan {rows : List Op} (h : Op.clk ∉ rows) : Op.clk ∉ deRespan rows := by
  intro hm
  simp only [deRespan, List.mem_map] at hm
  obtain ⟨o, ho, heq⟩ := hm
  split at heq
  · cases heq
  · subst heq
    exact h ho

theorem runOps_reclk_ok_iff {ops : List Op} {vm v' : Vm} {c : Nat} {t : List Op} (hc : Op.clk ∉ ops) :
    runOps ops (vm.reclk c t) = .ok v' ↔ ∃ v, runOps ops vm = .ok v ∧ v' = v.reclk c t := by
  rw [runOps_reclk ops vm c t hc]
  cases runOps ops vm <;> simp [Except.map, eq_comm]

theorem execOps_ok_iff {env : Env} : ∀ (rows : List Op) {vm vm' : Vm}, Op.clk ∉ rows →
    vm.clk ≤ env.maxCycles →
    (execOps env rows vm = .ok vm' ↔ ∃ v, runOps (deRespan rows) vm = .ok v ∧
      vm.clk + rows.length ≤ env.maxCycles ∧
      vm' = v.reclk (vm.clk + rows.length) (rows.reverse ++ vm.trace))
  | [], vm, vm', _, hv => by
    simp only [execOps, deRespan, List.map_nil, runOps, Except.ok.injEq, List.length_nil, Nat.add_zero,
      List.reverse_nil, List.nil_append]
    constructor
    · rintro rfl
      exact ⟨vm, rfl, hv, rfl⟩
    · rintro ⟨v, rfl, _, rfl⟩
      rfl
  | op :: rest, vm, vm', hc, hv => by
    have hrest : Op.clk ∉ rest := fun e => hc (List.mem_cons_of_mem _ e)
    have hd := clk_not_mem_deRespan hrest
    rw [execOps_cons_ok]
    simp only [deRespan, List.map_cons, runOps_cons]
    constructor
    · rintro ⟨v1, h1, h2⟩
      obtain ⟨s, hs, hb, rfl⟩ := execRow_ok_iff.mp h1
      obtain ⟨v, hr, hb', rfl⟩ := (execOps_ok_iff rest hrest hb).mp h2
      obtain ⟨w, hw, rfl⟩ := (runOps_reclk_ok_iff hd).mp hr
      refine ⟨w, by rw [hs]; exact hw, by simp only [reclk, List.length_cons] at hb' ⊢; omega, ?_⟩
      simp [reclk, Nat.add_assoc, Nat.add_comm 1]
    · rintro ⟨v, hr, hb, rfl⟩
      cases hs : vm.step (if op = Op.respan then Op.noop else op) with
      | error e => rw [hs] at hr; cases hr
      | ok s =>
        rw [hs] at hr
        simp only [List.length_cons] at hb
        refine ⟨_, execRow_ok_iff.mpr ⟨s, hs, by omega, rfl⟩, ?_⟩
        refine (execOps_ok_iff rest hrest (by simp only [reclk]; omega)).mpr
          ⟨_, (runOps_reclk_ok_iff hd).mpr ⟨_, hr, rfl⟩, by simp only [reclk]; omega, ?_⟩
        simp [reclk, Nat.add_assoc, Nat.add_comm 1]

/-- **Clock erasure, both ways**: a span that does not read the clock completes exactly when its
    tick-free run succeeds and the cycle budget allows its rows plus SPAN and END; the result is that
    run's result at the later clock. -/
theorem exec_span_ok_iff {env : Env} {n : Nat} {ops : List Op} {vm vm' : Vm}
    (hc : Op.clk ∉ spanRows ops) :
    exec env (n + 1) (.span ops) vm = .ok vm' ↔ ∃ v, runOps (deRespan (spanRows ops)) vm = .ok v ∧
      vm.clk + (spanRows ops).length + 2 ≤ env.maxCycles ∧
      vm' = v.reclk (vm.clk + (spanRows ops).length + 2)
        (.end :: ((spanRows ops).reverse ++ .span :: vm.trace)) := by
  have hd := clk_not_mem_deRespan hc
  rw [exec_span_ok]
  constructor
  · rintro ⟨v1, v2, h1, h2, h3⟩
    obtain ⟨s, hs, hb, rfl⟩ := execRow_ok_iff.mp h1
    cases (step_noop vm).symm.trans hs
    obtain ⟨v, hr, hb', rfl⟩ := (execOps_ok_iff _ hc hb).mp h2
    obtain ⟨s, hs, hb'', rfl⟩ := execRow_ok_iff.mp h3
    cases (step_noop _).symm.trans hs
    obtain ⟨w, hw, rfl⟩ := (runOps_reclk_ok_iff hd).mp hr
    exact ⟨w, hw, by simp only [reclk] at hb'' ⊢; omega, by simp [reclk]; omega⟩
  · rintro ⟨v, hr, hb, rfl⟩
    refine ⟨_, _, execRow_ok_iff.mpr ⟨vm, step_noop vm, by omega, rfl⟩,
      (execOps_ok_iff _ hc (by simp only [reclk]; omega)).mpr
        ⟨_, (runOps_reclk_ok_iff hd).mpr ⟨_, hr, rfl⟩, by simp only [reclk]; omega, rfl⟩,
      execRow_ok_iff.mpr ⟨_, step_noop _, by simp only [reclk]; omega, ?_⟩⟩
    simp [reclk]
    omega

end Miden
