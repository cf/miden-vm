/-
  `Holds`: all stack constraints vanish on a row pair, at an arbitrary field; its reading group by
  group (`holds_iff_groups`); the frame predicates of C04's statements.
-/
import Miden.Model.Air
import Mathlib.Tactic.LinearCombination
import Mathlib.Tactic.Ring
import Mathlib.Tactic.IntervalCases
import Mathlib.Tactic.FieldSimp
namespace Miden.Air

variable {F : Type} [Field F]

/-- All 111 stack constraints vanish on the row pair. -/
def Holds (cur nxt : Row F) : Prop := ∀ x ∈ stackConstraints cur nxt, x = 0

variable {cur nxt : Row F}

theorem holds_iff_groups : Holds cur nxt ↔
    (∀ x ∈ overflowCs cur nxt, x = 0) ∧ (∀ x ∈ systemCs cur nxt, x = 0) ∧
      (∀ x ∈ fieldCs cur nxt, x = 0) ∧ (∀ x ∈ manipCs cur nxt, x = 0) ∧ (∀ x ∈ u32Cs cur nxt, x = 0) ∧
      (∀ x ∈ ioCs cur nxt, x = 0) ∧ (∀ x ∈ generalCs cur nxt, x = 0) := by
  simp only [Holds, stackConstraints, List.forall_mem_append, and_assoc]

theorem Holds.overflow (h : Holds cur nxt) : ∀ x ∈ overflowCs cur nxt, x = 0 :=
  (holds_iff_groups.mp h).1
theorem Holds.system (h : Holds cur nxt) : ∀ x ∈ systemCs cur nxt, x = 0 :=
  (holds_iff_groups.mp h).2.1
theorem Holds.field (h : Holds cur nxt) : ∀ x ∈ fieldCs cur nxt, x = 0 :=
  (holds_iff_groups.mp h).2.2.1
theorem Holds.manip (h : Holds cur nxt) : ∀ x ∈ manipCs cur nxt, x = 0 :=
  (holds_iff_groups.mp h).2.2.2.1
theorem Holds.u32 (h : Holds cur nxt) : ∀ x ∈ u32Cs cur nxt, x = 0 :=
  (holds_iff_groups.mp h).2.2.2.2.1
theorem Holds.io (h : Holds cur nxt) : ∀ x ∈ ioCs cur nxt, x = 0 :=
  (holds_iff_groups.mp h).2.2.2.2.2.1
theorem Holds.general (h : Holds cur nxt) : ∀ x ∈ generalCs cur nxt, x = 0 :=
  (holds_iff_groups.mp h).2.2.2.2.2.2

/-- The last of the general constraints: the top of the stack is binary where an operation needs it. -/
def topBinaryC (cur nxt : Row F) : F :=
  (topBinary cur - cur.is 15) * isBinary (cur.st 0) + cur.is 15 * isBinary (nxt.st 0)

/-- Positions `k..15` of the stack are copied unchanged. -/
def CopyFrom (cur nxt : Row F) (k : Nat) : Prop := ∀ i, k ≤ i → i < 16 → nxt.st i = cur.st i
/-- Positions `k..15` move one slot towards the top (left shift). -/
def LeftFrom (cur nxt : Row F) (k : Nat) : Prop := ∀ i, k ≤ i → i < 16 → nxt.st (i - 1) = cur.st i
/-- Positions `k..14` move one slot away from the top (right shift). -/
def RightFrom (cur nxt : Row F) (k : Nat) : Prop := ∀ i, k ≤ i → i < 15 → nxt.st (i + 1) = cur.st i

set_option hygiene false in
/-- Evaluates every constraint group on a row whose opcode is known (`hop`) and leaves the
    surviving equations in the context as `ho hs hf hm hu hi hg`. -/
macro "air_simp" hop:ident h:ident : tactic => `(tactic| (
  have ho := Holds.overflow $h
  have hs := Holds.system $h
  have hf := Holds.field $h
  have hm := Holds.manip $h
  have hu := Holds.u32 $h
  have hi := Holds.io $h
  have hg := Holds.general $h
  simp [overflowCs, leftShiftAny, rightShiftAny, Row.overflow, Row.is, Row.inR, $hop:ident, c, bnot,
    sub_eq_zero] at ho
  simp [systemCs, Row.is, $hop:ident, c, sub_eq_zero] at hs
  simp [fieldCs, Row.is, $hop:ident, c, isBinary, sub_eq_zero] at hf
  simp [manipCs, Row.is, $hop:ident, c, bnot, List.range, List.range.loop, sub_eq_zero] at hm
  simp [u32Cs, Row.is, Row.inR, $hop:ident, c, isBinary, sub_eq_zero] at hu
  simp [ioCs, Row.is, $hop:ident, c, sub_eq_zero] at hi
  simp [generalCs, noShift, leftShift, rightShift, topBinary, Row.is, Row.inR, $hop:ident, c, bnot,
    isBinary, List.range, List.range.loop, sub_eq_zero] at hg))

end Miden.Air
