/-
  Fuel and cycle limit only decide WHETHER a run completes, never WHAT it computes: a run that
  completes with final clock c completes with the same result with any larger fuel under every limit
  m ≥ c (one mutual induction over exec / execDyn / loopIter; the limit is read by `tick` alone and the
  clock only grows).
-/
import Miden.Lemmas.Runs
namespace Miden
namespace Vm

def _root_.Miden.Env.withMax (env : Env) (m : Nat) : Env := { env with maxCycles := m }

theorem execRow_mono {env : Env} {vm v : Vm} {op row : Op} {m : Nat} (h : vm.execRow env op row = .ok v)
    (hm : v.clk ≤ m) : vm.execRow (env.withMax m) op row = .ok v := by
  obtain ⟨s, hs, _, rfl⟩ := execRow_ok_iff.mp h
  exact execRow_ok_iff.mpr ⟨s, hs, hm, rfl⟩

theorem Prog.le {env : Env} {a b : Vm} (h : Prog env a b) : a.clk ≤ b.clk := Nat.le_of_lt h.2.2
theorem row_le {env : Env} {vm v : Vm} {op row : Op} (h : vm.execRow env op row = .ok v) : vm.clk ≤ v.clk :=
  (execRow_ok h).1 ▸ Nat.le_succ _

theorem execOps_le {env : Env} {rows : List Op} {a b : Vm} (h : execOps env rows a = .ok b) :
    a.clk ≤ b.clk := by
  have := (execOps_adv rows h).2
  omega

theorem execOps_mono {env : Env} {m : Nat} : ∀ (rows : List Op) {vm v : Vm},
    execOps env rows vm = .ok v → v.clk ≤ m → execOps (env.withMax m) rows vm = .ok v
  | [], vm, v, h, _ => by simpa [execOps] using h
  | op :: rest, vm, v, h, hm => by
    obtain ⟨v1, h1, h2⟩ := execOps_cons_ok.mp h
    exact execOps_cons_ok.mpr ⟨v1, execRow_mono h1 (Nat.le_trans (execOps_le h2) hm), execOps_mono rest h2 hm⟩

theorem exec_mono_all (env : Env) (m : Nat) : ∀ fuel : Nat,
    (∀ b vm vm' fuel', exec env fuel b vm = .ok vm' → fuel ≤ fuel' → vm'.clk ≤ m →
      exec (env.withMax m) fuel' b vm = .ok vm') ∧
    (∀ vm vm' fuel', execDyn env fuel vm = .ok vm' → fuel ≤ fuel' → vm'.clk ≤ m →
      execDyn (env.withMax m) fuel' vm = .ok vm') ∧
    (∀ body vm vm' fuel', loopIter env fuel body vm = .ok vm' → fuel ≤ fuel' → vm'.clk ≤ m →
      loopIter (env.withMax m) fuel' body vm = .ok vm') := by
  intro fuel
  induction fuel with
  | zero => exact ⟨fun _ _ _ _ h => absurd h exec_zero, fun _ _ _ h => absurd h execDyn_zero,
      fun _ _ _ _ h => absurd h loopIter_zero⟩
  | succ n ih =>
    obtain ⟨ihE, ihD, ihL⟩ := ih
    obtain ⟨pE, pD, pL⟩ := exec_prog_all env n
    refine ⟨?_, ?_, ?_⟩
    · intro b vm vm' fuel' h hf hm
      obtain ⟨n', rfl⟩ : ∃ n', fuel' = n' + 1 := ⟨fuel' - 1, by omega⟩
      have hn : n ≤ n' := by omega
      cases b with
      | span ops =>
        obtain ⟨v1, v2, h1, h2, h3⟩ := exec_span_ok.mp h
        have l2 := Nat.le_trans (row_le h3) hm
        exact exec_span_ok.mpr ⟨v1, v2, execRow_mono h1 (Nat.le_trans (execOps_le h2) l2),
          execOps_mono _ h2 l2, execRow_mono h3 hm⟩
      | join a b =>
        obtain ⟨v1, v2, v3, h1, h2, h3, h4⟩ := exec_join_ok.mp h
        have l3 := Nat.le_trans (row_le h4) hm
        have l2 := Nat.le_trans (pE _ _ _ h3).le l3
        have l1 := Nat.le_trans (pE _ _ _ h2).le l2
        exact exec_join_ok.mpr ⟨v1, v2, v3, execRow_mono h1 l1, ihE _ _ _ _ h2 hn l2, ihE _ _ _ _ h3 hn l3,
          execRow_mono h4 hm⟩
      | split t f =>
        obtain ⟨v1, v2, h1, h2, h3⟩ := exec_split_ok.mp h
        have l2 := Nat.le_trans (row_le h3) hm
        have l1 : v1.clk ≤ m := h2.elim (fun h => Nat.le_trans (pE _ _ _ h.2).le l2)
          (fun h => Nat.le_trans (pE _ _ _ h.2).le l2)
        exact exec_split_ok.mpr ⟨v1, v2, execRow_mono h1 l1,
          h2.imp (fun h => ⟨h.1, ihE _ _ _ _ h.2 hn l2⟩) (fun h => ⟨h.1, ihE _ _ _ _ h.2 hn l2⟩),
          execRow_mono h3 hm⟩
      | loop body =>
        obtain ⟨v1, h1, h2⟩ := exec_loop_ok.mp h
        rcases h2 with ⟨hc, h2⟩ | ⟨hc, v2, h2, h3⟩
        · exact exec_loop_ok.mpr ⟨v1, execRow_mono h1 (Nat.le_trans (row_le h2) hm),
            .inl ⟨hc, execRow_mono h2 hm⟩⟩
        · have l2 := Nat.le_trans (pL _ _ _ h3).le hm
          exact exec_loop_ok.mpr ⟨v1, execRow_mono h1 (Nat.le_trans (pE _ _ _ h2).le l2),
            .inr ⟨hc, v2, ihE _ _ _ _ h2 hn l2, ihL _ _ _ _ h3 hn hm⟩⟩
      | call target sc =>
        obtain ⟨hk, v1, v2, h1, h2, hd, h3⟩ := exec_call_ok.mp h
        have l2 : v2.clk ≤ m := Nat.le_trans (row_le (vm := leave vm v2) h3) hm
        have l1 : v1.clk ≤ m := by
          rcases h2 with ⟨_, h2⟩ | ⟨_, b, _, h2⟩
          · exact Nat.le_trans (pD _ _ h2).le l2
          · exact Nat.le_trans (pE _ _ _ h2).le l2
        exact exec_call_ok.mpr ⟨hk, v1, v2, execRow_mono h1 l1,
          h2.imp (fun h => ⟨h.1, ihD _ _ _ h.2 hn l2⟩) (fun ⟨hne, b, hl, h⟩ => ⟨hne, b, hl, ihE _ _ _ _ h hn l2⟩),
          hd, execRow_mono h3 hm⟩
      | dyn => exact exec_dyn.trans (ihD _ _ _ (exec_dyn.symm.trans h) hn hm)
      | proxy t => exact absurd h exec_proxy
    · intro vm vm' fuel' h hf hm
      obtain ⟨n', rfl⟩ : ∃ n', fuel' = n' + 1 := ⟨fuel' - 1, by omega⟩
      obtain ⟨s0, s1, s2, s3, r, b, v1, v2, hs, h1, hl, h2, h3⟩ := execDyn_ok.mp h
      have l2 := Nat.le_trans (row_le h3) hm
      exact execDyn_ok.mpr ⟨s0, s1, s2, s3, r, b, v1, v2, hs,
        execRow_mono h1 (Nat.le_trans (pE _ _ _ h2).le l2), hl, ihE _ _ _ _ h2 (by omega) l2, execRow_mono h3 hm⟩
    · intro body vm vm' fuel' h hf hm
      obtain ⟨n', rfl⟩ : ∃ n', fuel' = n' + 1 := ⟨fuel' - 1, by omega⟩
      rcases loopIter_ok.mp h with ⟨hc, h1⟩ | ⟨hc, v1, v2, h1, h2, h3⟩
      · exact loopIter_ok.mpr (.inl ⟨hc, execRow_mono h1 hm⟩)
      · have l2 := Nat.le_trans (pL _ _ _ h3).le hm
        exact loopIter_ok.mpr (.inr ⟨hc, v1, v2, execRow_mono h1 (Nat.le_trans (pE _ _ _ h2).le l2),
          ihE _ _ _ _ h2 (by omega) l2, ihL _ _ _ _ h3 (by omega) hm⟩)

/-- **Raising or lowering the cycle limit changes nothing as long as the run fits**: a run that
    completes with final clock `c` completes with the same result under every limit `m ≥ c`. -/
theorem exec_limit_mono {env : Env} {fuel : Nat} {b : Block} {vm vm' : Vm} (m : Nat)
    (h : exec env fuel b vm = .ok vm') (hm : vm'.clk ≤ m) : exec (env.withMax m) fuel b vm = .ok vm' :=
  (exec_mono_all env m fuel).1 b vm vm' fuel h (Nat.le_refl _) hm

theorem exec_fuel_mono {env : Env} {fuel fuel' : Nat} {b : Block} {vm vm' : Vm}
    (h : exec env fuel b vm = .ok vm') (hf : fuel ≤ fuel') : exec env fuel' b vm = .ok vm' :=
  (exec_mono_all env env.maxCycles fuel).1 b vm vm' fuel' h hf (exec_prog h).2.1

end Vm
end Miden
