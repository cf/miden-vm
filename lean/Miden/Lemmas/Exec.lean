/-
  The executor (`Miden.Model.Exec`) through lemmas of its own: clock / trace bookkeeping of rows, and
  one `… = .ok vm' ↔ …` statement per block kind.
-/
import Miden.Model.Exec
namespace Miden
namespace Vm

/-- `b` is reached from `a` by appending rows `l` (newest first), one clock cycle per row. -/
def Adv (a b : Vm) : Prop := ∃ l : List Op, b.trace = l ++ a.trace ∧ b.clk = a.clk + l.length

theorem Adv.refl (a : Vm) : Adv a a := ⟨[], by simp, by simp⟩

theorem Adv.trans {a b c : Vm} (h1 : Adv a b) (h2 : Adv b c) : Adv a c := by
  obtain ⟨l1, t1, c1⟩ := h1
  obtain ⟨l2, t2, c2⟩ := h2
  exact ⟨l2 ++ l1, by rw [t2, t1, List.append_assoc], by rw [c2, c1, List.length_append]; omega⟩

theorem step_clk {vm vm' : Vm} {op : Op} (h : vm.step op = .ok vm') :
    vm'.clk = vm.clk ∧ vm'.trace = vm.trace := by
  unfold step at h
  split at h
  · cases h
  · cases h
    exact ⟨rfl, rfl⟩

/-- The same machine state at another clock / with another decoder history. -/
def reclk (vm : Vm) (c : Nat) (t : List Op) : Vm := { vm with clk := c, trace := t }

theorem tick_ok_iff {env : Env} {vm vm' : Vm} {row : Op} :
    vm.tick env row = .ok vm' ↔
      vm.clk + 1 ≤ env.maxCycles ∧ vm' = vm.reclk (vm.clk + 1) (row :: vm.trace) := by
  unfold tick
  simp only
  split
  · simp
    omega
  · simp [reclk, eq_comm]
    omega

theorem tick_err {env : Env} {vm : Vm} {row : Op} {e : Err} (h : vm.tick env row = .error e) :
    e = .cycleLimit env.maxCycles ∧ env.maxCycles < vm.clk + 1 := by
  unfold tick at h
  simp only at h
  split at h
  · cases h; exact ⟨rfl, by assumption⟩
  · cases h

theorem execRow_ok_iff {env : Env} {vm vm' : Vm} {op row : Op} :
    vm.execRow env op row = .ok vm' ↔ ∃ s, vm.step op = .ok s ∧
      vm.clk + 1 ≤ env.maxCycles ∧ vm' = s.reclk (vm.clk + 1) (row :: vm.trace) := by
  unfold execRow
  cases hs : vm.step op with
  | error e => simp
  | ok s =>
    obtain ⟨hc, ht⟩ := step_clk hs
    simp [tick_ok_iff, hc, ht]

theorem execRow_ok {env : Env} {vm vm' : Vm} {op row : Op} (h : vm.execRow env op row = .ok vm') :
    vm'.clk = vm.clk + 1 ∧ vm'.trace = row :: vm.trace ∧ vm'.clk ≤ env.maxCycles := by
  obtain ⟨s, _, hb, rfl⟩ := execRow_ok_iff.mp h
  exact ⟨rfl, rfl, hb⟩

/-- A RESPAN row executes as a NOOP; every other row executes itself. -/
theorem execOps_cons_ok {env : Env} {op : Op} {rest : List Op} {vm vm' : Vm} :
    execOps env (op :: rest) vm = .ok vm' ↔
      ∃ v1, vm.execRow env (if op = .respan then .noop else op) op = .ok v1 ∧
        execOps env rest v1 = .ok vm' := by
  have hrow : (if op = Op.respan then vm.execRow env .noop .respan else vm.execRow env op op)
      = vm.execRow env (if op = Op.respan then Op.noop else op) op := by
    split
    · rename_i e
      subst e
      rfl
    · rfl
  simp only [execOps, hrow]
  cases vm.execRow env (if op = Op.respan then Op.noop else op) op <;> simp

theorem execOps_adv {env : Env} : ∀ (rows : List Op) {vm vm' : Vm},
    execOps env rows vm = .ok vm' →
    vm'.trace = rows.reverse ++ vm.trace ∧ vm'.clk = vm.clk + rows.length
  | [], vm, vm', h => by
    unfold execOps at h
    cases h
    simp
  | op :: rest, vm, vm', h => by
    obtain ⟨v, hr, h⟩ := execOps_cons_ok.mp h
    obtain ⟨c, t, _⟩ := execRow_ok hr
    obtain ⟨t2, c2⟩ := execOps_adv rest h
    constructor
    · rw [t2, t]
      simp
    · rw [c2, c, List.length_cons]
      omega

/-- Progress relation: rows were appended, at least one, and the clock check passed. -/
def Prog (env : Env) (a b : Vm) : Prop := Adv a b ∧ b.clk ≤ env.maxCycles ∧ a.clk < b.clk

theorem Prog.trans {env : Env} {a b c : Vm} (h1 : Prog env a b) (h2 : Prog env b c) : Prog env a c :=
  ⟨h1.1.trans h2.1, h2.2.1, by have := h1.2.2; have := h2.2.2; omega⟩

theorem Prog.to_eq {env : Env} {a b b' : Vm} (hc : b'.clk = b.clk) (ht : b'.trace = b.trace)
    (h : Prog env a b) : Prog env a b' := by
  obtain ⟨⟨l, t, c⟩, h2, h3⟩ := h
  exact ⟨⟨l, by rw [ht, t], by rw [hc, c]⟩, by rw [hc]; exact h2, by rw [hc]; exact h3⟩

/-! Read left to right these are the inversions of a completed run, right to left the rules that build
one. -/

theorem exec_span_ok {env : Env} {n : Nat} {ops : List Op} {vm vm' : Vm} :
    exec env (n + 1) (.span ops) vm = .ok vm' ↔ ∃ v1 v2, vm.execRow env .noop .span = .ok v1 ∧
      execOps env (spanRows ops) v1 = .ok v2 ∧ v2.execRow env .noop .end = .ok vm' := by
  simp only [exec]
  cases vm.execRow env .noop .span with
  | error e => simp
  | ok v1 =>
    simp only []
    cases h2 : execOps env (spanRows ops) v1 <;> simp [h2]

theorem exec_join_ok {env : Env} {n : Nat} {a b : Block} {vm vm' : Vm} :
    exec env (n + 1) (.join a b) vm = .ok vm' ↔ ∃ v1 v2 v3, vm.execRow env .noop .join = .ok v1 ∧
      exec env n a v1 = .ok v2 ∧ exec env n b v2 = .ok v3 ∧ v3.execRow env .noop .end = .ok vm' := by
  simp only [exec]
  cases vm.execRow env .noop .join with
  | error e => simp
  | ok v1 =>
    simp only []
    cases h2 : exec env n a v1 with
    | error e => simp [h2]
    | ok v2 =>
      simp only []
      cases h3 : exec env n b v2 <;> simp [h2, h3]

theorem exec_split_ok {env : Env} {n : Nat} {t f : Block} {vm vm' : Vm} :
    exec env (n + 1) (.split t f) vm = .ok vm' ↔ ∃ v1 v2, vm.execRow env .drop .split = .ok v1 ∧
      (vm.peek = 1 ∧ exec env n t v1 = .ok v2 ∨ vm.peek = 0 ∧ exec env n f v1 = .ok v2) ∧
      v2.execRow env .noop .end = .ok vm' := by
  simp only [exec]
  cases vm.execRow env .drop .split with
  | error e => simp
  | ok v1 =>
    simp only []
    by_cases h1 : vm.peek = 1
    · cases h2 : exec env n t v1 <;> simp [h1, h2]
    · by_cases h0 : vm.peek = 0
      · cases h2 : exec env n f v1 <;> simp [h0, h2]
      · simp [h0, h1]

theorem exec_loop_ok {env : Env} {n : Nat} {body : Block} {vm vm' : Vm} :
    exec env (n + 1) (.loop body) vm = .ok vm' ↔ ∃ v1, vm.execRow env .drop .loop = .ok v1 ∧
      (vm.peek = 0 ∧ v1.execRow env .noop .end = .ok vm' ∨
       vm.peek = 1 ∧ ∃ v2, exec env n body v1 = .ok v2 ∧ loopIter env n body v2 = .ok vm') := by
  simp only [exec]
  cases vm.execRow env .drop .loop with
  | error e => simp
  | ok v1 =>
    simp only []
    by_cases h1 : vm.peek = 1
    · cases h2 : exec env n body v1 <;> simp [h1, h2]
    · by_cases h0 : vm.peek = 0
      · simp [h0]
      · simp [h0, h1]

theorem loopIter_ok {env : Env} {n : Nat} {body : Block} {vm vm' : Vm} :
    loopIter env (n + 1) body vm = .ok vm' ↔
      vm.peek = 0 ∧ vm.execRow env .drop .end = .ok vm' ∨
      vm.peek = 1 ∧ ∃ v1 v2, vm.execRow env .drop .repeat = .ok v1 ∧ exec env n body v1 = .ok v2 ∧
        loopIter env n body v2 = .ok vm' := by
  simp only [loopIter]
  by_cases h1 : vm.peek = 1
  · cases vm.execRow env .drop .repeat with
    | error e => simp [h1]
    | ok v1 =>
      simp only []
      cases h2 : exec env n body v1 <;> simp [h1, h2]
  · by_cases h0 : vm.peek = 0
    · simp [h0]
    · simp [h0, h1]

theorem execDyn_ok {env : Env} {n : Nat} {vm vm' : Vm} :
    execDyn env (n + 1) vm = .ok vm' ↔ ∃ s0 s1 s2 s3 r b v1 v2, vm.stack = s0 :: s1 :: s2 :: s3 :: r ∧
      vm.execRow env .noop .dyn = .ok v1 ∧ env.cbTable.lookup ⟨s3, s2, s1, s0⟩ = some b ∧
      exec env n b v1 = .ok v2 ∧ v2.execRow env .noop .end = .ok vm' := by
  simp only [execDyn]
  split
  · rename_i s0 s1 s2 s3 r hs
    constructor
    · intro h
      cases h1 : vm.execRow env .noop .dyn with
      | error e => simp [h1] at h
      | ok v1 =>
        cases hl : env.cbTable.lookup ⟨s3, s2, s1, s0⟩ with
        | none => simp [h1, hl] at h
        | some b =>
          cases h2 : exec env n b v1 with
          | error e => simp [h1, hl, h2] at h
          | ok v2 => exact ⟨s0, s1, s2, s3, r, b, v1, v2, hs, rfl, hl, h2, by simpa [h1, hl, h2] using h⟩
    · rintro ⟨t0, t1, t2, t3, r', b, v1, v2, hs', h1, hl, h2, h3⟩
      rw [hs] at hs'
      cases hs'
      simp [h1, hl, h2, h3]
  · rename_i hs
    simp only [reduceCtorEq, false_iff, not_exists, not_and]
    intro s0 s1 s2 s3 r b v1 v2 h
    exact absurd h (hs s0 s1 s2 s3 r)

/-- The state in which the CALL / SYSCALL row executes. -/
def enter (vm : Vm) (target : Word) (sc : Bool) : Vm :=
  if sc then { vm with stack := vm.stack.take 16, ctx := 0, fmp := SYSCALL_FMP_MIN, inSyscall := true }
  else { vm with stack := vm.stack.take 16, ctx := vm.clk + 1, fmp := FMP_MIN, fnHash := target }

/-- The caller's frame put back around the callee's final state `v`. -/
def leave (saved v : Vm) : Vm :=
  { v with ctx := saved.ctx, fmp := saved.fmp, fnHash := saved.fnHash, inSyscall := false,
           stack := v.stack ++ saved.stack.drop 16 }

theorem enter_clk (vm : Vm) (target : Word) (sc : Bool) : (vm.enter target sc).clk = vm.clk := by
  cases sc <;> rfl

theorem enter_trace (vm : Vm) (target : Word) (sc : Bool) : (vm.enter target sc).trace = vm.trace := by
  cases sc <;> rfl

theorem enter_stack (vm : Vm) (target : Word) (sc : Bool) :
    (vm.enter target sc).stack = vm.stack.take 16 := by
  cases sc <;> rfl

theorem exec_call_ok {env : Env} {n : Nat} {target : Word} {sc : Bool} {vm vm' : Vm} :
    exec env (n + 1) (.call target sc) vm = .ok vm' ↔
      ¬ (sc ∧ !(env.kernel.contains target)) ∧ ∃ v1 v2,
        (vm.enter target sc).execRow env .noop (if sc then .syscall else .call) = .ok v1 ∧
        (target = env.dynHash ∧ execDyn env n v1 = .ok v2 ∨
          target ≠ env.dynHash ∧ ∃ b, env.cbTable.lookup target = some b ∧ exec env n b v1 = .ok v2) ∧
        v2.stack.length ≤ 16 ∧ (leave vm v2).execRow env .noop .end = .ok vm' := by
  simp only [exec]
  split
  · rename_i hk
    constructor
    · intro h
      cases h
    · intro h
      exact absurd hk h.1
  · rename_i hk
    rw [and_iff_right hk]
    have he : (if sc = true then
          { vm with stack := vm.stack.take 16, ctx := 0, fmp := SYSCALL_FMP_MIN, inSyscall := true }
        else { vm with stack := vm.stack.take 16, ctx := vm.clk + 1, fmp := FMP_MIN, fnHash := target })
        = vm.enter target sc := by
      unfold enter
      cases sc <;> rfl
    rw [he]
    cases h1 : (vm.enter target sc).execRow env .noop (if sc then .syscall else .call) with
    | error e => simp
    | ok v1 =>
      simp only []
      have hfin : ∀ (body : Except Err Vm),
          (match body with
            | .error e => .error e
            | .ok v => if v.stack.length > 16 then .error (.badDepthOnReturn v.stack.length)
                else (leave vm v).execRow env .noop .end) = Except.ok vm' ↔
          ∃ v2, body = .ok v2 ∧ v2.stack.length ≤ 16 ∧ (leave vm v2).execRow env .noop .end = .ok vm' := by
        intro body
        cases body with
        | error e => simp
        | ok v =>
          simp only []
          split
          · rename_i hd
            simp
            omega
          · rename_i hd
            simp
            omega
      refine (hfin _).trans ?_
      by_cases hd : target = env.dynHash
      · simp [hd]
      · cases env.cbTable.lookup target <;> simp [hd]

theorem exec_dyn {env : Env} {n : Nat} {vm : Vm} : exec env (n + 1) .dyn vm = execDyn env n vm := by
  simp only [exec]

theorem exec_proxy {env : Env} {n : Nat} {t : Word} {vm vm' : Vm} :
    exec env (n + 1) (.proxy t) vm ≠ .ok vm' := by
  simp [exec]

theorem exec_zero {env : Env} {b : Block} {vm vm' : Vm} : exec env 0 b vm ≠ .ok vm' := by simp [exec]
theorem execDyn_zero {env : Env} {vm vm' : Vm} : execDyn env 0 vm ≠ .ok vm' := by simp [execDyn]
theorem loopIter_zero {env : Env} {b : Block} {vm vm' : Vm} : loopIter env 0 b vm ≠ .ok vm' := by
  simp [loopIter]

theorem exec_succ {env : Env} {fuel : Nat} {b : Block} {vm vm' : Vm} (h : exec env fuel b vm = .ok vm') :
    ∃ n, fuel = n + 1 := by
  cases fuel with
  | zero => exact absurd h exec_zero
  | succ n => exact ⟨n, rfl⟩

end Vm
end Miden
