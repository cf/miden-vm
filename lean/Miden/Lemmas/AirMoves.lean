/-
  The general and the overflow-table constraints of the stack AIR, read operation by operation: which
  current cell each next-row cell must equal (`general_iff`, against the table `moves`), and what the
  overflow bookkeeping must do (`overflow_iff`; by shift class `overflow_right`, `_left`, `_none`).

  The one step that is not routine: the shift flags of the general constraints are sums and differences
  of some forty opcode indicators per position, too many to evaluate by `simp` for every operation.
  They are integer functions of the opcode alone (`noShift_cast` …), so they are evaluated over `ℤ` by
  the kernel, once, against the table `moves` (`shiftFlags_code`).
-/
import Miden.Lemmas.AirTac
namespace Miden.Air
variable {F : Type} [Field F]

def flagRow (k : Nat) : Row ℤ := ⟨0, 0, k, [], [], 0, 0, 0⟩

theorem is_cast (r : Row F) (j : Nat) : r.is j = (((flagRow r.opcode).is j : ℤ) : F) := by
  simp only [Row.is, flagRow, c]
  split <;> simp [*]

theorem inR_cast (r : Row F) (lo hi : Nat) : r.inR lo hi = (((flagRow r.opcode).inR lo hi : ℤ) : F) := by
  simp only [Row.inR, flagRow, c]
  split <;> simp [*]

theorem is_ne {R : Type} [Ring R] {r : Row R} {j : Nat} (h : r.opcode ≠ j) : r.is j = 0 := by
  simp [Row.is, h, c]

/-- Off END rows: there the flag of END is multiplied by a decoder flag from the helper registers. -/
theorem noShift_cast (r : Row F) (h : r.opcode ≠ 112) (i : Nat) :
    noShift r i = ((noShift (flagRow r.opcode) i : ℤ) : F) := by
  unfold noShift
  simp only [is_ne h, is_ne (r := flagRow r.opcode) h, zero_mul, add_zero, is_cast r, inR_cast r]
  split <;> simp only [Int.cast_add, Int.cast_sub]

theorem leftShift_cast (r : Row F) (h : r.opcode ≠ 112) (i : Nat) :
    leftShift r i = ((leftShift (flagRow r.opcode) i : ℤ) : F) := by
  unfold leftShift
  simp only [is_ne h, is_ne (r := flagRow r.opcode) h, zero_mul, add_zero, is_cast r, inR_cast r]
  split <;> simp only [Int.cast_add, Int.cast_sub, c, Nat.cast_zero, Int.cast_zero]

theorem rightShift_cast (r : Row F) (i : Nat) :
    rightShift r i = ((rightShift (flagRow r.opcode) i : ℤ) : F) := by
  unfold rightShift
  simp only [is_cast r, inR_cast r]
  split <;> simp only [Int.cast_add, Int.cast_sub]

theorem leftShiftAny_cast (r : Row F) (h : r.opcode ≠ 112) :
    leftShiftAny r = ((leftShiftAny (flagRow r.opcode) : ℤ) : F) := by
  unfold leftShiftAny
  simp only [is_ne h, is_ne (r := flagRow r.opcode) h, zero_mul, add_zero, is_cast r, inR_cast r, Int.cast_add]

theorem rightShiftAny_cast (r : Row F) :
    rightShiftAny r = ((rightShiftAny (flagRow r.opcode) : ℤ) : F) := by
  unfold rightShiftAny
  simp only [is_cast r, inR_cast r, Int.cast_add]

/-- The flags the general constraint of position `i` reads on a row with opcode `k`:
    no shift at `i`, left shift into `i`, right shift into `i`. -/
def shiftFlags (k i : Nat) : ℤ × ℤ × ℤ :=
  (noShift (flagRow k) i, if i < 15 then leftShift (flagRow k) (i + 1) else 0,
    if 0 < i then rightShift (flagRow k) (i - 1) else 0)

/-- The general constraint of position `i`, its flags written as casts of the integers `shiftFlags`
    (that this is the model's constraint: `generalCs_eq`). -/
def generalC (cur nxt : Row F) (i : Nat) : F :=
  let f := shiftFlags cur.opcode i
  nxt.st i * ((f.1 : F) + (f.2.1 : F) + (f.2.2 : F))
    - ((f.1 : F) * cur.st i + (f.2.1 : F) * cur.st (i + 1) + (f.2.2 : F) * cur.st (i - 1))

theorem generalCs_eq {cur nxt : Row F} (h : cur.opcode ≠ 112) :
    generalCs cur nxt = (List.range 16).map (generalC cur nxt) ++ [topBinaryC cur nxt] := by
  simp [generalCs, generalC, topBinaryC, shiftFlags, List.range, List.range.loop, noShift_cast _ h,
    leftShift_cast _ h, rightShift_cast]

/-- How the general constraints move a next-row cell: it equals the current cell one below
    (`up`: the stack shifts left), the same cell, or the one above (`down`: right shift). -/
inductive Move where
  | up | keep | down
  deriving DecidableEq

def Move.src : Move → Nat → Nat
  | .up, i => i + 1
  | .keep, i => i
  | .down, i => i - 1

def Move.flags : Option Move → ℤ × ℤ × ℤ
  | none => (0, 0, 0)
  | some .keep => (1, 0, 0)
  | some .up => (0, 1, 0)
  | some .down => (0, 0, 1)

/-- Runs `(m, lo, hi)` of next-row cells `lo ≤ i < hi` that the general constraints of an operation
    tie to the current row (`docs/src/design/stack/op_constraints.md`, composite shift flags). -/
def moves : Op → List (Move × Nat × Nat)
  | .noop | .u32assert2 _ | .mpverify => [(.keep, 0, 16)]
  | .fmpadd | .neg | .inv | .incr | .not | .eqz | .mload => [(.keep, 1, 16)]
  | .u32add | .u32sub | .u32mul | .u32div | .swap => [(.keep, 2, 16)]
  | .caller | .expacc | .ext2mul | .advpopw | .mrupdate => [(.keep, 4, 16)]
  | .swapw => [(.keep, 8, 16)]
  | .swapw2 => [(.keep, 4, 8), (.keep, 12, 16)]
  | .swapw3 => [(.keep, 4, 12)]
  | .hperm => [(.keep, 12, 16)]
  | .mstream | .pipe => [(.keep, 8, 12), (.keep, 13, 16)]
  | .assert _ | .fmpupdate | .drop | .mstorew | .mstore => [(.up, 0, 15)]
  | .add | .mul | .and | .or | .eq | .u32and | .u32xor => [(.up, 1, 15)]
  | .u32add3 | .u32madd | .cswap => [(.up, 2, 15)]
  | .mloadw => [(.up, 4, 15)]
  | .cswapw => [(.up, 8, 15)]
  | .sdepth | .clk | .pad | .push _ | .advpop | .dup0 | .dup1 | .dup2 | .dup3 | .dup4 | .dup5 | .dup6
  | .dup7 | .dup9 | .dup11 | .dup13 | .dup15 => [(.down, 1, 16)]
  | .u32split => [(.down, 2, 16)]
  | .movup2 => movup 2 | .movup3 => movup 3 | .movup4 => movup 4 | .movup5 => movup 5
  | .movup6 => movup 6 | .movup7 => movup 7 | .movup8 => movup 8
  | .movdn2 => movdn 2 | .movdn3 => movdn 3 | .movdn4 => movdn 4 | .movdn5 => movdn 5
  | .movdn6 => movdn 6 | .movdn7 => movdn 7 | .movdn8 => movdn 8
  | _ => []
where
  /-- Cells `0..n-1` go down by one; the moved cell lands on top (a matter of `manipCs`). -/
  movup (n : Nat) := [(.down, 1, n + 1), (.keep, n + 1, 16)]
  /-- Cells `1..n` go up by one; the top lands in cell `n`. -/
  movdn (n : Nat) := [(.up, 0, n), (.keep, n + 1, 16)]

def moveAt (op : Op) (i : Nat) : Option Move :=
  ((moves op).find? fun s => s.2.1 ≤ i && i < s.2.2).map (·.1)

/-- `moves` is what the flag polynomials of the AIR evaluate to. -/
theorem shiftFlags_code (op : Op) (hc : op.isControl = false) :
    ∀ i < 16, shiftFlags op.code i = Move.flags (moveAt op i) := by
  cases op
  -- `decide` refuses a free variable; neither side depends on the parameter of an operation
  case assert => exact (by decide +kernel : ∀ i < 16, shiftFlags 32 i = Move.flags (moveAt (.assert 0) i))
  case u32assert2 =>
    exact (by decide +kernel : ∀ i < 16, shiftFlags 74 i = Move.flags (moveAt (.u32assert2 0) i))
  case push => exact (by decide +kernel : ∀ i < 16, shiftFlags 100 i = Move.flags (moveAt (.push 0) i))
  all_goals first | exact absurd hc (by decide) | decide +kernel

variable {cur nxt : Row F} {op : Op}

theorem code_ne_ctl (hc : op.isControl = false) : op.code ≠ 104 ∧ op.code ≠ 108 ∧ op.code ≠ 112 := by
  cases op <;> simp [Op.code, Op.isControl] at hc ⊢

theorem generalC_iff (hop : cur.opcode = op.code) (hc : op.isControl = false) {i : Nat} (hi : i < 16) :
    generalC cur nxt i = 0 ↔ ∀ m, moveAt op i = some m → nxt.st i = cur.st (m.src i) := by
  unfold generalC
  rw [hop, shiftFlags_code op hc i hi]
  rcases moveAt op i with _ | m
  · simp [Move.flags]
  · cases m <;> simp [Move.flags, Move.src, sub_eq_zero]

/-- The general constraints say: every next-row cell that has a move equals the current cell the
    move names, and the top of the stack is binary where the operation needs it. -/
theorem general_iff (op : Op) (hop : cur.opcode = op.code) (hc : op.isControl = false) :
    (∀ x ∈ generalCs cur nxt, x = 0) ↔
      (∀ i < 16, ∀ m, moveAt op i = some m → nxt.st i = cur.st (m.src i)) ∧ topBinaryC cur nxt = 0 := by
  rw [generalCs_eq (hop ▸ (code_ne_ctl hc).2.2)]
  simp only [List.forall_mem_append, List.forall_mem_map, List.mem_range, List.forall_mem_singleton]
  exact and_congr_left fun _ => forall₂_congr fun i hi => generalC_iff hop hc hi

theorem Holds.cell (h : Holds cur nxt) (op : Op) (hop : cur.opcode = op.code) {i : Nat} {m : Move}
    (hi : i < 16) (hm : moveAt op i = some m) (hc : op.isControl = false := by rfl) :
    nxt.st i = cur.st (m.src i) :=
  ((general_iff op hop hc).mp h.general).1 i hi m hm

/-- The frame predicates of C04's statements, for the operation at hand.  The default arguments look the
    cells up in the table `moves` by evaluation: `h.leftFrom .add hop 2` checks that ADD moves cells
    2 … 15 up. -/
theorem Holds.copyFrom (h : Holds cur nxt) (op : Op) (hop : cur.opcode = op.code) (k : Nat)
    (hm : ∀ i, k ≤ i → i < 16 → moveAt op i = some .keep := by decide)
    (hc : op.isControl = false := by rfl) : CopyFrom cur nxt k :=
  fun i h1 h2 => h.cell op hop h2 (hm i h1 h2) hc

theorem Holds.leftFrom (h : Holds cur nxt) (op : Op) (hop : cur.opcode = op.code) (k : Nat)
    (hm : ∀ i, k ≤ i → i < 16 → moveAt op (i - 1) = some .up := by decide)
    (hc : op.isControl = false := by rfl) (hk : 0 < k := by decide) : LeftFrom cur nxt k := fun i h1 h2 => by
  have := h.cell op hop (by omega) (hm i h1 h2) hc
  rwa [Move.src, Nat.sub_add_cancel (by omega)] at this

theorem Holds.rightFrom (h : Holds cur nxt) (op : Op) (hop : cur.opcode = op.code) (k : Nat)
    (hm : ∀ i, k ≤ i → i < 15 → moveAt op (i + 1) = some .down := by decide)
    (hc : op.isControl = false := by rfl) : RightFrom cur nxt k :=
  fun i h1 h2 => h.cell op hop (by omega) (hm i h1 h2) hc

/-- Cells the general constraints tie, read through an index map `p` (checked cell by cell). -/
theorem Holds.cells (h : Holds cur nxt) (op : Op) (hop : cur.opcode = op.code) (p : Nat → Nat)
    (q : Nat → Prop) (hp : ∀ i < 16, q i → ∃ m, moveAt op i = some m ∧ m.src i = p i := by decide)
    (hc : op.isControl = false := by rfl) : ∀ i < 16, q i → nxt.st i = cur.st (p i) := fun i hi hq => by
  obtain ⟨m, hm, e⟩ := hp i hi hq
  exact e ▸ h.cell op hop hi hm hc

theorem overflow_eq (r : Row F) : r.overflow = (r.b0 - 16) * r.h0 := by simp [Row.overflow, c]

theorem overflow_iff (op : Op) (hop : cur.opcode = op.code) (hc : op.isControl = false) :
    (∀ x ∈ overflowCs cur nxt, x = 0) ↔
      nxt.b0 - cur.b0 + (leftShiftAny (flagRow op.code) : ℤ) * cur.overflow
        - (rightShiftAny (flagRow op.code) : ℤ) = 0 ∧
      (1 - cur.overflow) * (cur.b0 - 16) = 0 ∧
      (nxt.b1 - cur.clk) * (rightShiftAny (flagRow op.code) : ℤ) = 0 ∧
      (1 - cur.overflow) * (leftShiftAny (flagRow op.code) : ℤ) * nxt.st 15 = 0 := by
  obtain ⟨h1, h2, h3⟩ : cur.opcode ≠ 104 ∧ cur.opcode ≠ 108 ∧ cur.opcode ≠ 112 := hop ▸ code_ne_ctl hc
  simp [overflowCs, is_ne h1, is_ne h2, is_ne h3, leftShiftAny_cast cur h3, rightShiftAny_cast, hop, c]

theorem overflow_right (op : Op) (hop : cur.opcode = op.code) (hc : op.isControl = false := by rfl)
    (hr : rightShiftAny (flagRow op.code) = 1 := by decide)
    (hl : leftShiftAny (flagRow op.code) = 0 := by decide) :
    (∀ x ∈ overflowCs cur nxt, x = 0) ↔
      (1 - cur.overflow) * (cur.b0 - 16) = 0 ∧ nxt.b0 = cur.b0 + 1 ∧ nxt.b1 = cur.clk := by
  rw [overflow_iff op hop hc, hr, hl]
  push_cast
  constructor
  · rintro ⟨h1, h2, h3, -⟩
    exact ⟨h2, by linear_combination h1, by linear_combination h3⟩
  · rintro ⟨h2, h1, h3⟩
    exact ⟨by linear_combination h1, h2, by linear_combination h3, by ring⟩

theorem Holds.push (h : Holds cur nxt) (op : Op) (hop : cur.opcode = op.code)
    (hm : ∀ i, 0 ≤ i → i < 15 → moveAt op (i + 1) = some .down := by decide)
    (hc : op.isControl = false := by rfl)
    (hr : rightShiftAny (flagRow op.code) = 1 := by decide)
    (hl : leftShiftAny (flagRow op.code) = 0 := by decide) :
    RightFrom cur nxt 0 ∧ nxt.b0 = cur.b0 + 1 ∧ nxt.b1 = cur.clk :=
  ⟨h.rightFrom op hop 0 hm hc, ((overflow_right op hop hc hr hl).mp h.overflow).2⟩

theorem overflow_left (op : Op) (hop : cur.opcode = op.code) (hc : op.isControl = false := by rfl)
    (hr : rightShiftAny (flagRow op.code) = 0 := by decide)
    (hl : leftShiftAny (flagRow op.code) = 1 := by decide) :
    (∀ x ∈ overflowCs cur nxt, x = 0) ↔
      (1 - cur.overflow) * (cur.b0 - 16) = 0 ∧ nxt.b0 = cur.b0 - cur.overflow ∧
        (1 - cur.overflow) * nxt.st 15 = 0 := by
  rw [overflow_iff op hop hc, hr, hl]
  push_cast
  constructor
  · rintro ⟨h1, h2, -, h4⟩
    exact ⟨h2, by linear_combination h1, by linear_combination h4⟩
  · rintro ⟨h2, h1, h4⟩
    exact ⟨by linear_combination h1, h2, by ring, by linear_combination h4⟩

theorem overflow_none (op : Op) (hop : cur.opcode = op.code) (hc : op.isControl = false := by rfl)
    (hr : rightShiftAny (flagRow op.code) = 0 := by decide)
    (hl : leftShiftAny (flagRow op.code) = 0 := by decide) :
    (∀ x ∈ overflowCs cur nxt, x = 0) ↔
      (1 - cur.overflow) * (cur.b0 - 16) = 0 ∧ nxt.b0 = cur.b0 := by
  rw [overflow_iff op hop hc, hr, hl]
  push_cast
  constructor
  · rintro ⟨h1, h2, -, -⟩
    exact ⟨h2, by linear_combination h1⟩
  · rintro ⟨h2, h1⟩
    exact ⟨by linear_combination h1, h2, by ring, by ring⟩

end Miden.Air
