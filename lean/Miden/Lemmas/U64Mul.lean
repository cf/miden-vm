/-
  The product of two limb pairs in terms of the four limb products (which `omega` then treats as
  atoms), and `cswap` on a binary condition.
-/
import Miden.Lemmas.U64Pure
import Mathlib.Tactic.Ring
namespace Miden.U64Mul

theorem u64of_mul (ah al bh bl : Nat) :
    u64of ah al * u64of bh bl = ah * bh * two64 + (ah * bl + al * bh) * two32 + al * bl := by
  simp only [u64of, two32, two64]
  ring

theorem ps_cswap_b (x0 x1 x2 : Nat) (r : List Nat) (h0 : x0 ≤ 1) :
    pureStep .cswap (x0 :: x1 :: x2 :: r) = .ok (padN 16 (if x0 = 1 then x2 :: x1 :: r else x1 :: x2 :: r)) := by
  have : x0 = 0 ∨ x0 = 1 := by omega
  rcases this with h | h
  · rw [ps_cswap0 _ _ _ _ h]
    simp [h]
  · rw [ps_cswap1 _ _ _ _ h]
    simp [h]

end Miden.U64Mul
