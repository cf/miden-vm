/-
  Symbolic execution with the advice tape: (stack, fmp, memory, advice) view of straight-line code
  (`runOps_a`; code that leaves the tape alone runs as on (stack, fmp, memory), `runA_m`), evaluation /
  inversion rules for `pipe`, the data views `D` / `DA` of a machine state, inversion of rows and spans
  on them, and the while-loop rule by inversion (`loop_rule_a`).
-/
import Miden.Lemmas.MemExec
import Miden.Lemmas.ClockErasure
namespace Miden
open Vm

structure ASt where
  stack : List Nat
  fmp : Nat
  mem : Mem
  adv : List Nat

/-- Operations whose effect is a function of stack, fmp, memory and advice tape. -/
def Op.isASimple (op : Op) : Bool :=
  op.isMSimple || (match op with
    | .advpop | .advpopw | .pipe => true
    | _ => false)

def aStep (ctx : Nat) (op : Op) (s : ASt) : Except Err ASt :=
  match Vm.stepCore { stack := s.stack, fmp := s.fmp, mem := s.mem, ctx := ctx, adv := s.adv } op with
  | .ok v => .ok ⟨v.stack, v.fmp, v.mem, v.adv⟩
  | .error e => .error e

def runA (ctx : Nat) : List Op → ASt → Except Err ASt
  | [], s => .ok s
  | op :: rest, s => match aStep ctx op s with
    | .ok s' => runA ctx rest s'
    | .error e => .error e

theorem aStep_m (ctx : Nat) (op : Op) (s : List Nat) (f : Nat) (m : Mem) (a : List Nat) (h : op.isMSimple = true) :
    aStep ctx op ⟨s, f, m, a⟩ = (mStep ctx op ⟨s, f, m⟩).map (fun st => ⟨st.stack, st.fmp, st.mem, a⟩) := by
  have h1 := stepCore_m { stack := s, fmp := f, mem := m, ctx := ctx, adv := a } op h
  unfold aStep
  rw [h1]
  simp only
  cases mStep ctx op ⟨s, f, m⟩ <;> rfl

theorem Op.parts_of_isASimple {op : Op} (h : op.isASimple = true) :
    op.parts ⊆ { fmp := true, mem := true, adv := true } := by
  cases op <;> first | rfl | cases h

theorem stepCore_a (vm : Vm) (op : Op) (h : op.isASimple = true) :
    vm.stepCore op = match aStep vm.ctx op ⟨vm.stack, vm.fmp, vm.mem, vm.adv⟩ with
      | .ok s => .ok { vm with stack := s.stack, fmp := s.fmp, mem := s.mem, adv := s.adv }
      | .error e => .error e := by
  unfold aStep
  rw [show vm.stepCore op = _ from Vm.stepCore_overlay (Op.parts_of_isASimple h)
    { stack := vm.stack, fmp := vm.fmp, mem := vm.mem, ctx := vm.ctx, adv := vm.adv } vm]
  cases Vm.stepCore { stack := vm.stack, fmp := vm.fmp, mem := vm.mem, ctx := vm.ctx, adv := vm.adv } op <;> rfl

theorem runOps_a (ops : List Op) (h : ops.all Op.isASimple = true) (vm : Vm) :
    runOps ops vm = match runA vm.ctx ops ⟨vm.stack, vm.fmp, vm.mem, vm.adv⟩ with
      | .ok s => .ok { vm with stack := s.stack, fmp := s.fmp, mem := s.mem, adv := s.adv }
      | .error e => .error e := by
  induction ops generalizing vm with
  | nil => rfl
  | cons op rest ih =>
    simp only [List.all_cons, Bool.and_eq_true] at h
    simp only [runOps, runA, Vm.step_eq_stepCore, stepCore_a vm op h.1]
    cases hp : aStep vm.ctx op ⟨vm.stack, vm.fmp, vm.mem, vm.adv⟩ with
    | error e => rfl
    | ok s => exact ih h.2 { vm with stack := s.stack, fmp := s.fmp, mem := s.mem, adv := s.adv }

theorem isASimple_of_isMSimple {ops : List Op} (h : ops.all Op.isMSimple = true) :
    ops.all Op.isASimple = true := by
  rw [List.all_eq_true] at h ⊢
  intro o ho
  simp [Op.isASimple, h o ho]

theorem runA_m {C : Nat} {a : List Nat} : ∀ {ops : List Op}, ops.all Op.isMSimple = true →
    ∀ (t : List Nat) (f : Nat) (m : Mem),
    runA C ops ⟨t, f, m, a⟩ = (runM C ops ⟨t, f, m⟩).map (fun st => ⟨st.stack, st.fmp, st.mem, a⟩)
  | [], _, _, _, _ => rfl
  | op :: rest, h, t, f, m => by
    simp only [List.all_cons, Bool.and_eq_true] at h
    simp only [runA, runM, aStep_m C op t f m a h.1]
    cases mStep C op ⟨t, f, m⟩ with
    | error e => rfl
    | ok st => exact runA_m h.2 st.stack st.fmp st.mem

@[sym_exec] theorem runA_nil (ctx : Nat) (s : ASt) : runA ctx [] s = .ok s := rfl

theorem runA_cons_ok {ctx : Nat} {op : Op} {rest : List Op} {s s' : ASt} (h : aStep ctx op s = .ok s') :
    runA ctx (op :: rest) s = runA ctx rest s' := by simp [runA, h]

theorem aStep_pure (ctx : Nat) (op : Op) (s : List Nat) (f : Nat) (m : Mem) (a : List Nat) (h : op.isStackOnly = true) :
    aStep ctx op ⟨s, f, m, a⟩ = (pureStep op s).map (fun s' => ⟨s', f, m, a⟩) := by
  have hm : op.isMSimple = true := by simp [Op.isMSimple, h]
  rw [aStep_m ctx op s f m a hm, mStep_pure ctx op s f m h]
  cases pureStep op s <;> rfl

@[sym_exec] theorem ra_pure {ctx : Nat} {op : Op} {rest : List Op} {s : List Nat} {f : Nat} {m : Mem} {a : List Nat}
    (h : op.isStackOnly = true) :
    runA ctx (op :: rest) ⟨s, f, m, a⟩ = (pureStep op s).bind (fun s' => runA ctx rest ⟨s', f, m, a⟩) := by
  simp only [runA, aStep_pure ctx op s f m a h]
  cases pureStep op s <;> rfl

theorem ra_pipe {ctx x0 x1 x2 x3 x4 x5 x6 x7 s8 s9 s10 s11 a : Nat} {r : List Nat} {f : Nat} {m : Mem}
    {t0 t1 t2 t3 t4 t5 t6 t7 : Nat} {adv : List Nat} {rest : List Op} (h : a + 1 ≤ u32max) :
    runA ctx (.pipe :: rest) ⟨x0 :: x1 :: x2 :: x3 :: x4 :: x5 :: x6 :: x7 :: s8 :: s9 :: s10 :: s11 :: a :: r, f, m,
        t0 :: t1 :: t2 :: t3 :: t4 :: t5 :: t6 :: t7 :: adv⟩
      = runA ctx rest ⟨t7 :: t6 :: t5 :: t4 :: t3 :: t2 :: t1 :: t0 :: s8 :: s9 :: s10 :: s11 :: (a + 2) :: r, f,
          (m.write ctx a ⟨t0, t1, t2, t3⟩).write ctx (a + 1) ⟨t4, t5, t6, t7⟩, adv⟩ :=
  runA_cons_ok (by
    have h1 : ¬ (a > u32max) := by omega
    have h2 : ¬ (a + 1 > u32max) := by omega
    simp [aStep, Vm.stepCore, Vm.validAddr, h1, h2])

theorem pipe_inv {ctx x0 x1 x2 x3 x4 x5 x6 x7 s8 s9 s10 s11 a : Nat} {r : List Nat} {f : Nat} {m : Mem}
    {rest : List Op} {st : ASt} (ha : a + 1 ≤ u32max) : ∀ (adv : List Nat),
    runA ctx (.pipe :: rest) ⟨x0 :: x1 :: x2 :: x3 :: x4 :: x5 :: x6 :: x7 :: s8 :: s9 :: s10 :: s11 :: a :: r, f, m, adv⟩ = .ok st →
    ∃ t0 t1 t2 t3 t4 t5 t6 t7 adv', adv = t0 :: t1 :: t2 :: t3 :: t4 :: t5 :: t6 :: t7 :: adv' ∧
      runA ctx rest ⟨t7 :: t6 :: t5 :: t4 :: t3 :: t2 :: t1 :: t0 :: s8 :: s9 :: s10 :: s11 :: (a + 2) :: r, f,
          (m.write ctx a ⟨t0, t1, t2, t3⟩).write ctx (a + 1) ⟨t4, t5, t6, t7⟩, adv'⟩ = .ok st
  | t0 :: t1 :: t2 :: t3 :: t4 :: t5 :: t6 :: t7 :: adv', h =>
    ⟨t0, t1, t2, t3, t4, t5, t6, t7, adv', rfl, by rwa [ra_pipe ha] at h⟩
  | [], h | [_], h | [_, _], h | [_, _, _], h | [_, _, _, _], h | [_, _, _, _, _], h
  | [_, _, _, _, _, _], h | [_, _, _, _, _, _, _], h => by
    exfalso
    have h1 : ¬ (a > u32max) := by omega
    have h2 : ¬ (a + 1 > u32max) := by omega
    simp [runA, aStep, Vm.stepCore, Vm.validAddr, h1, h2] at h

/-- The data of a machine state without the tape (`D`) and with it (`DA`), as relations. -/
def Trunc.D (vm : Vm) (s : List Nat) (f : Nat) (m : Mem) (c : Nat) : Prop :=
  vm.stack = s ∧ vm.fmp = f ∧ vm.mem = m ∧ vm.ctx = c

def DA (vm : Vm) (s : List Nat) (f : Nat) (m : Mem) (a : List Nat) (c : Nat) : Prop :=
  vm.stack = s ∧ vm.fmp = f ∧ vm.mem = m ∧ vm.adv = a ∧ vm.ctx = c

/-- What the judgement `Completes` (Lemmas/Forward.lean) speaks of. -/
def Vm.data (vm : Vm) : ASt := ⟨vm.stack, vm.fmp, vm.mem, vm.adv⟩

theorem DA_iff {vm : Vm} {s f m a c} : DA vm s f m a c ↔ vm.data = ⟨s, f, m, a⟩ ∧ vm.ctx = c := by
  simp [DA, Vm.data, and_assoc]

theorem D_iff_DA {vm : Vm} {s f m c} : Trunc.D vm s f m c ↔ DA vm s f m vm.adv c := by
  simp [Trunc.D, DA]

theorem peek_DA {vm : Vm} {c : Nat} {t f m a C} (hd : DA vm (c :: t) f m a C) : vm.peek = c := by
  rw [peek, hd.1]
  rfl

theorem execRow_noop_DA {env : Env} {vm vm' : Vm} {row : Op} {s f m a c}
    (h : vm.execRow env .noop row = .ok vm') (hd : DA vm s f m a c) : DA vm' s f m a c := by
  obtain ⟨v, hv, _, rfl⟩ := execRow_ok_iff.mp h
  cases (step_noop vm).symm.trans hv
  exact hd

theorem execRow_drop_DA {env : Env} {vm vm' : Vm} {row : Op} {x : Nat} {s : List Nat} {f m a c}
    (h : vm.execRow env .drop row = .ok vm') (hd : DA vm (x :: s) f m a c) : DA vm' (padN 16 s) f m a c := by
  obtain ⟨v, hv, _, rfl⟩ := execRow_ok_iff.mp h
  cases (step_drop vm x s hd.1).symm.trans hv
  exact ⟨rfl, hd.2⟩

theorem SpanFacts.toA {ops rows : List Op} (h : SpanFacts Op.isMSimple ops rows) :
    SpanFacts Op.isASimple ops rows := ⟨h.1, h.2.1, isASimple_of_isMSimple h.2.2⟩

theorem exec_span_DA {env : Env} {fuel : Nat} {ops rows : List Op} {vm vm' : Vm} {s f m a c}
    (hf : SpanFacts Op.isASimple ops rows) (h : Vm.exec env fuel (.span ops) vm = .ok vm')
    (hd : DA vm s f m a c) :
    ∃ st, runA c rows ⟨s, f, m, a⟩ = .ok st ∧ DA vm' st.stack st.fmp st.mem st.adv c := by
  obtain ⟨rfl, hc, hm⟩ := hf
  obtain ⟨fuel, rfl⟩ := exec_succ h
  obtain ⟨v, hv, _, rfl⟩ := (exec_span_ok_iff hc).mp h
  obtain ⟨hs, hf, hmm, haa, hcc⟩ := hd
  rw [runOps_a _ hm vm, hs, hf, hmm, haa, hcc] at hv
  cases hr : runA c (deRespan (spanRows ops)) ⟨s, f, m, a⟩ with
  | error e => rw [hr] at hv; cases hv
  | ok st =>
    rw [hr] at hv
    cases hv
    exact ⟨st, rfl, rfl, rfl, rfl, rfl, rfl⟩

/-- While-loop rule by inversion, with the advice tape in the invariant: whatever completed run exists
    ends in the invariant at 0.  The step hypothesis speaks of whatever state the body run produces, so
    that a body that may fail (a tape that is too short) is covered. -/
theorem loop_rule_a (env : Env) (body : List Op) (hc : Op.clk ∉ spanRows body)
    (hm : (deRespan (spanRows body)).all Op.isASimple = true) (C : Nat)
    (J : Nat → List Nat → Nat → Mem → List Nat → Prop)
    (hlen : ∀ k t f m a, J k t f m a → 16 ≤ t.length)
    (hstep : ∀ k t f m a st, J (k + 1) t f m a → runA C (deRespan (spanRows body)) ⟨t, f, m, a⟩ = .ok st →
      ∃ c t', st.stack = c :: t' ∧ J k t' st.fmp st.mem st.adv ∧ (c = 1 ↔ k ≠ 0) ∧ (c = 0 ↔ k = 0))
    (k fuel : Nat) (vm vm' : Vm) (c : Nat) (t : List Nat) (f : Nat) (m : Mem) (a : List Nat)
    (hd : DA vm (c :: t) f m a C) (hj : J k t f m a) (h1 : c = 1 ↔ k ≠ 0) (h0 : c = 0 ↔ k = 0)
    (h : Vm.exec env fuel (.loop (.span body)) vm = .ok vm') :
    ∃ t' f' m' a', DA vm' t' f' m' a' C ∧ J 0 t' f' m' a' := by
  -- one iteration: the flag row, the body, the invariant one step down
  have iter : ∀ {k n row c t f m a} {vm v1 v2 : Vm}, DA vm (c :: t) f m a C → J (k + 1) t f m a →
      vm.execRow env .drop row = .ok v1 → Vm.exec env n (.span body) v1 = .ok v2 →
      ∃ c' t' f' m' a', DA v2 (c' :: t') f' m' a' C ∧ J k t' f' m' a' ∧ (c' = 1 ↔ k ≠ 0) ∧ (c' = 0 ↔ k = 0) := by
    intro k n row c t f m a vm v1 v2 hd hj e1 e2
    have hd1 := execRow_drop_DA e1 hd
    rw [padN_of_le (hlen _ _ _ _ _ hj)] at hd1
    obtain ⟨st, hst, hd2⟩ := exec_span_DA ⟨rfl, hc, hm⟩ e2 hd1
    obtain ⟨c', t', hs', hj', hc'⟩ := hstep k t f m a st hj hst
    rw [hs'] at hd2
    exact ⟨c', t', _, _, _, hd2, hj', hc'⟩
  -- the REPEAT / END tail, by induction on the fuel of the run at hand
  have tail : ∀ fuel k (vm : Vm) c t f m a, DA vm (c :: t) f m a C → J k t f m a → (c = 1 ↔ k ≠ 0) →
      (c = 0 ↔ k = 0) → Vm.loopIter env fuel (.span body) vm = .ok vm' →
      ∃ t' f' m' a', DA vm' t' f' m' a' C ∧ J 0 t' f' m' a' := by
    intro fuel
    induction fuel with
    | zero => exact fun _ _ _ _ _ _ _ _ _ _ _ h => absurd h loopIter_zero
    | succ n ih =>
      intro k vm c t f m a hd hj h1 h0 h
      rcases loopIter_ok.mp h with ⟨hp, e⟩ | ⟨hp, v1, v2, e1, e2, e3⟩
      · obtain rfl : k = 0 := h0.mp ((peek_DA hd).symm.trans hp)
        have hd' := execRow_drop_DA e hd
        rw [padN_of_le (hlen _ _ _ _ _ hj)] at hd'
        exact ⟨t, f, m, a, hd', hj⟩
      · obtain ⟨k, rfl⟩ : ∃ j, k = j + 1 := ⟨k - 1, by have := h1.mp ((peek_DA hd).symm.trans hp); omega⟩
        obtain ⟨c', t', f', m', a', hd2, hj', h1', h0'⟩ := iter hd hj e1 e2
        exact ih k v2 c' t' f' m' a' hd2 hj' h1' h0' e3
  cases fuel with
  | zero => exact absurd h exec_zero
  | succ n =>
    obtain ⟨v1, e1, h2⟩ := exec_loop_ok.mp h
    rcases h2 with ⟨hp, e2⟩ | ⟨hp, v2, e2, e3⟩
    · have hk : k = 0 := h0.mp ((peek_DA hd).symm.trans hp)
      subst hk
      have hd1 := execRow_drop_DA e1 hd
      rw [padN_of_le (hlen _ _ _ _ _ hj)] at hd1
      exact ⟨t, f, m, a, execRow_noop_DA e2 hd1, hj⟩
    · obtain ⟨k, rfl⟩ : ∃ j, k = j + 1 := ⟨k - 1, by have := h1.mp ((peek_DA hd).symm.trans hp); omega⟩
      obtain ⟨c', t', f', m', a', hd2, hj', h1', h0'⟩ := iter hd hj e1 e2
      exact tail n k v2 c' t' f' m' a' hd2 hj' h1' h0' e3

end Miden
