/-
  Soundness of Merkle path verification for an arbitrary two-to-one function `H`:
  a path of length `d` that folds a value up to the root of a tree pins the value to the node at
  (depth `d`, index `i`) — or exhibits a collision of `H`.  No injectivity is assumed.
-/
import Miden.Model.Vm
import Mathlib.Data.List.Induction
namespace Miden
namespace Merkle

abbrev Dig := List Nat

inductive Tree where
  | leaf (v : Dig)
  | node (l r : Tree)

variable (H : Dig → Dig → Dig)

def Tree.root : Tree → Dig
  | .leaf v => v
  | .node l r => H (Tree.root l) (Tree.root r)

/-- The node at depth `d` and index `i` (`i < 2^d`, most significant bit chooses at the root). -/
def Tree.nodeAt : Tree → Nat → Nat → Option Dig
  | t, 0, _ => some (Tree.root H t)
  | .leaf _, _ + 1, _ => none
  | .node l r, d + 1, i =>
    if i / 2 ^ d % 2 = 0 then Tree.nodeAt l d (i % 2 ^ d) else Tree.nodeAt r d (i % 2 ^ d)

/-- Fold a path from a node towards the root; the least significant index bit is used first. -/
def fold : Dig → List Dig → Nat → Dig
  | v, [], _ => v
  | v, s :: rest, i => fold (if i % 2 = 0 then H v s else H s v) rest (i / 2)

/-- Two different input pairs with the same image. -/
def Collision : Prop := ∃ a b a' b', (a, b) ≠ (a', b') ∧ H a b = H a' b'

theorem fold_append (v : Dig) (p : List Dig) (s : Dig) (i : Nat) :
    fold H v (p ++ [s]) i =
      (if i / 2 ^ p.length % 2 = 0 then H (fold H v p i) s else H s (fold H v p i)) := by
  induction p generalizing v i with
  | nil => simp [fold]
  | cons x rest ih =>
    simp only [List.cons_append, fold, List.length_cons]
    rw [ih]
    have : i / 2 / 2 ^ rest.length = i / 2 ^ (rest.length + 1) := by
      rw [Nat.div_div_eq_div_mul, Nat.pow_succ, Nat.mul_comm]
    rw [this]

theorem fold_mod (v : Dig) (p : List Dig) (i : Nat) :
    fold H v p (i % 2 ^ p.length) = fold H v p i := by
  induction p generalizing v i with
  | nil => simp [fold]
  | cons x rest ih =>
    simp only [fold, List.length_cons]
    have h1 : i % 2 ^ (rest.length + 1) % 2 = i % 2 := by
      rw [Nat.pow_succ, Nat.mul_comm]
      exact Nat.mod_mul_right_mod i 2 (2 ^ rest.length)
    have h2 : i % 2 ^ (rest.length + 1) / 2 = (i / 2) % 2 ^ rest.length := by
      rw [Nat.pow_succ, Nat.mul_comm, Nat.mod_mul_right_div_self]
    simp only [h1, h2, ih]

theorem agree_or_collision {a b a' b' : Dig} (h : H a b = H a' b') :
    (a = a' ∧ b = b') ∨ Collision H := by
  by_cases heq : a = a' ∧ b = b'
  · exact Or.inl heq
  · exact Or.inr ⟨a, b, a', b', fun hp => heq ⟨(Prod.mk.inj hp).1, (Prod.mk.inj hp).2⟩, h⟩

/-- **Merkle soundness.**  If a path folds `v` (at index `i`) to the root of `t` and the tree has a
    node at depth `p.length`, index `i`, then that node is `v`, or `H` has a collision. -/
theorem path_sound {t : Tree} {p : List Dig} {v : Dig} {i : Nat} {w : Dig}
    (hf : fold H v p i = Tree.root H t) (hn : Tree.nodeAt H t p.length i = some w) :
    w = v ∨ Collision H := by
  -- `fold` works upwards from the node, `nodeAt` downwards from the root: the last sibling of the
  -- path is the one that meets the root
  induction p using List.reverseRecOn generalizing t i with
  | nil =>
    simp only [List.length_nil, Tree.nodeAt] at hn
    cases hn
    exact Or.inl hf.symm
  | append_singleton p s ih =>
    rw [fold_append] at hf
    rw [List.length_append, List.length_singleton] at hn
    cases t with
    | leaf x => cases hn
    | node l r =>
      simp only [Tree.nodeAt] at hn
      simp only [Tree.root] at hf
      by_cases hb : i / 2 ^ p.length % 2 = 0
      · simp only [hb, if_true] at hf hn
        rcases agree_or_collision H hf with ⟨h1, _⟩ | hc
        · exact ih (by rw [fold_mod, h1]) hn
        · exact Or.inr hc
      · simp only [hb, if_false] at hf hn
        rcases agree_or_collision H hf with ⟨_, h2⟩ | hc
        · exact ih (by rw [fold_mod, h2]) hn
        · exact Or.inr hc

theorem merkleRoot_eq_fold (node : Dig) (path : List Word) (i : Nat) :
    merkleRoot node path i = fold Rpo.merge node (path.map Word.toList) i := by
  induction path generalizing node i with
  | nil => rfl
  | cons s rest ih =>
    simp only [merkleRoot, List.map_cons, fold]
    rw [ih]

/-- Merkle soundness for the executable model: a path of length `d` along which `merkleRoot` takes
    `v` to the root of `t` pins `v` to the node of `t` at (d, i), or exhibits a `merge` collision. -/
theorem merkleRoot_sound {t : Tree} {path : List Word} {v root w : Dig} {d i : Nat}
    (hl : path.length = d) (hf : merkleRoot v path i = root) (hroot : Tree.root Rpo.merge t = root)
    (hnode : Tree.nodeAt Rpo.merge t d i = some w) : w = v ∨ Collision Rpo.merge := by
  rw [merkleRoot_eq_fold] at hf
  rw [← hl, ← List.length_map (f := Word.toList)] at hnode
  exact path_sound Rpo.merge (hf.trans hroot.symm) hnode

end Merkle
end Miden
