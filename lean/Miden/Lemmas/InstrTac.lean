/-
  `instr_tac`, `instr_tac_canon`, `instr_tac_mod`: a refinement theorem of `Props/C05Auto` by one `simp`
  with `Vm.stepCore` and `Spec.sem` unfolded: slow, and the call does not say why the form refines its
  reference.  The theorems there go through `Lemmas/InstrFam.lean`; from this file they need
  `sem_padw` only.
-/
import Miden.Lemmas.RunOps
import Miden.Generated.InstrOps
import Mathlib.Tactic.SplitIfs
namespace Miden

-- `Spec.sem` matches on 109 constructors.  Unfolding it here once generates its equation lemmas for
-- every importing module; otherwise each proof that unfolds `sem` by `simp` generates them again,
-- which costs more than the rest of such a proof.
theorem sem_padw (s : List Nat) : Spec.sem .padw s = .ok (0 :: 0 :: 0 :: 0 :: s) := by
  simp only [Spec.sem]

theorem canon16 {s : List Nat} {s0 s1 s2 s3 s4 s5 s6 s7 s8 s9 s10 s11 s12 s13 s14 s15 : Nat}
    {rest : List Nat} (hP : ∀ x ∈ s, x < P)
    (hs : s = s0 :: s1 :: s2 :: s3 :: s4 :: s5 :: s6 :: s7 :: s8 :: s9 :: s10 :: s11 :: s12 :: s13
            :: s14 :: s15 :: rest) :
    s0 < P ∧ s1 < P ∧ s2 < P ∧ s3 < P ∧ s4 < P ∧ s5 < P ∧ s6 < P ∧ s7 < P ∧ s8 < P ∧ s9 < P ∧
    s10 < P ∧ s11 < P ∧ s12 < P ∧ s13 < P ∧ s14 < P ∧ s15 < P := by
  subst hs
  simp only [List.mem_cons] at hP
  refine ⟨hP _ ?_, hP _ ?_, hP _ ?_, hP _ ?_, hP _ ?_, hP _ ?_, hP _ ?_, hP _ ?_, hP _ ?_, hP _ ?_,
    hP _ ?_, hP _ ?_, hP _ ?_, hP _ ?_, hP _ ?_, hP _ ?_⟩ <;> simp

/-- Symbolic execution of a generated operation list against the reference semantics. -/
macro "instr_tac" ops:ident : tactic => `(tactic| (
  intro vm hl
  obtain ⟨s0, s1, s2, s3, s4, s5, s6, s7, s8, s9, s10, s11, s12, s13, s14, s15, rest, hs⟩ := exists16 hl
  simp [stackRun_eq, runOps_cons, runOps_nil, step_eq_map, Except.map_ok', Except.map_error',
    Except.bind_ok', Except.bind_error', Except.map_ite, Except.bind_ite, $ops:ident, Vm.stepCore, Vm.setStack, Vm.dup, Vm.movup, Vm.movdn,
    insertAt, hs, Spec.sem, Refines, pad16_eq, Spec.failWith, Spec.failAny, Spec.undef, fadd_fneg,
    Spec.b2n]
  all_goals (try (split_ifs <;> simp_all))
  all_goals (try omega)))

/-- Variant for instructions whose refinement needs the stack elements to be canonical field
    elements (`hP`), e.g. `dup.8 = pad dup9 add` relies on `0 + x = x (mod p)` for `x < p`. -/
macro "instr_tac_canon" ops:ident : tactic => `(tactic| (
  intro vm hl hP
  obtain ⟨s0, s1, s2, s3, s4, s5, s6, s7, s8, s9, s10, s11, s12, s13, s14, s15, rest, hs⟩ := exists16 hl
  obtain ⟨c0, c1, c2, c3, c4, c5, c6, c7, c8, c9, c10, c11, c12, c13, c14, c15⟩ := canon16 hP hs
  simp [stackRun_eq, runOps_cons, runOps_nil, step_eq_map, Except.map_ok', Except.map_error',
    Except.bind_ok', Except.bind_error', Except.map_ite, Except.bind_ite, $ops:ident, Vm.stepCore, Vm.setStack, Vm.dup, Vm.movup, Vm.movdn,
    insertAt, hs, Spec.sem, Refines, pad16_eq, Spec.failWith, Spec.failAny, Spec.undef, fadd_fneg,
    Spec.b2n, Spec.isU32s]
  all_goals (try (split_ifs <;> simp_all))
  all_goals (try (simp only [fadd, fsub, fneg, splitHi, splitLo, two32, u32max, two64, P] at *))
  all_goals (try omega)))

/-- Variant that also removes reductions modulo 2^64 and modulo p of values that are provably small
    (u32 products and sums), which `omega` cannot see through on its own. -/
macro "instr_tac_mod" ops:ident : tactic => `(tactic| (
  intro vm hl hP
  obtain ⟨s0, s1, s2, s3, s4, s5, s6, s7, s8, s9, s10, s11, s12, s13, s14, s15, rest, hs⟩ := exists16 hl
  obtain ⟨c0, c1, c2, c3, c4, c5, c6, c7, c8, c9, c10, c11, c12, c13, c14, c15⟩ := canon16 hP hs
  simp [stackRun_eq, runOps_cons, runOps_nil, step_eq_map, Except.map_ok', Except.map_error',
    Except.bind_ok', Except.bind_error', Except.map_ite, Except.bind_ite, $ops:ident, Vm.stepCore, Vm.setStack, Vm.dup, Vm.movup, Vm.movdn,
    insertAt, hs, Spec.sem, Refines, pad16_eq, Spec.failWith, Spec.failAny, Spec.undef, fadd_fneg,
    Spec.b2n, Spec.isU32s]
  all_goals (try (split_ifs <;> simp_all))
  all_goals (try (simp only [fadd, fsub, fneg, fmul, splitHi, splitLo, two32, u32max, two64, P, Spec.rotl32,
    Nat.reducePow, Nat.reduceSub] at *))
  all_goals (try (simp (disch := omega) only [Nat.mod_eq_of_lt] at *))
  all_goals (try omega)))

end Miden
