/-
  Infrastructure for completeness of the stack AIR on honest rows (`Props/C03Air.lean`): casts of the
  model's canonical-representative arithmetic into the field `ZMod P`, correctness of the Fermat
  inverse, and `honest_of`: on the row pair the processor writes for a successful step, the overflow
  constraints and the general constraints hold for all operations at once (`stepCore_depth`; the cells
  an operation leaves alone: `stepCore_frame`; the few it rewrites and the general constraints tie all
  the same: `stepCore_tied`), so that an operation only has to meet the few equations `Air.Demands`
  lists for it.
-/
import Miden.Model.Honest
import Miden.Lemmas.Step
import Miden.Lemmas.AirSpec
import Miden.Lemmas.Prime
import Mathlib.FieldTheory.Finite.Basic
namespace Miden.C03
open Miden.Air Miden.Vm

abbrev FP := ZMod P

theorem cast_fadd (a b : Nat) : ((fadd a b : Nat) : FP) = (a : FP) + (b : FP) := by
  unfold fadd
  rw [ZMod.natCast_mod]
  push_cast
  rfl

theorem cast_fmul (a b : Nat) : ((fmul a b : Nat) : FP) = (a : FP) * (b : FP) := by
  unfold fmul
  rw [ZMod.natCast_mod]
  push_cast
  rfl

theorem cast_P_sub (a : Nat) (h : a ≤ P) : ((P - a : Nat) : FP) = -(a : FP) := by
  rw [Nat.cast_sub h, ZMod.natCast_self, zero_sub]

theorem cast_fneg (a : Nat) : ((fneg a : Nat) : FP) = -(a : FP) := by
  unfold fneg
  rw [ZMod.natCast_mod, cast_P_sub _ (Nat.le_of_lt (Nat.mod_lt _ (by decide))), ZMod.natCast_mod]

theorem cast_fsub (a b : Nat) : ((fsub a b : Nat) : FP) = (a : FP) - (b : FP) := by
  unfold fsub
  rw [ZMod.natCast_mod, Nat.cast_add, cast_P_sub _ (Nat.le_of_lt (Nat.mod_lt _ (by decide))),
    ZMod.natCast_mod]
  ring

theorem cast_fpowAux : ∀ (fuel base e acc : Nat), e < 2 ^ fuel →
    ((fpowAux fuel base e acc : Nat) : FP) = (acc : FP) * (base : FP) ^ e := by
  intro fuel
  induction fuel with
  | zero =>
    intro base e acc he
    have : e = 0 := by omega
    subst this
    simp [fpowAux]
  | succ n ih =>
    intro base e acc he
    unfold fpowAux
    by_cases h0 : e = 0
    · subst h0
      simp
    · simp only [h0, if_false]
      rw [ih _ _ _ (by omega)]
      have hdecomp : e = 2 * (e / 2) + e % 2 := by omega
      by_cases hodd : e % 2 = 1
      · simp only [hodd, if_true, cast_fmul]
        conv_rhs => rw [hdecomp, hodd, pow_add, pow_mul, pow_one]
        ring
      · have hev : e % 2 = 0 := by omega
        simp only [hodd, if_false, cast_fmul]
        conv_rhs => rw [hdecomp, hev, pow_add, pow_mul, pow_zero]
        ring

theorem cast_finv (a : Nat) (h : (a : FP) ≠ 0) : ((finv a : Nat) : FP) = (a : FP)⁻¹ := by
  unfold finv fpow
  rw [cast_fpowAux _ _ _ _ (by decide), ZMod.natCast_mod, Nat.cast_one, one_mul]
  have h1 : (a : FP) ^ (P - 1) = 1 := ZMod.pow_card_sub_one_eq_one h
  have h2 : (a : FP) * (a : FP) ^ (P - 2) = 1 := by
    rw [← pow_succ']
    exact h1
  exact eq_inv_of_mul_eq_one_right h2

theorem cast_ne_zero (a : Nat) (hlt : a < P) (h0 : a ≠ 0) : (a : FP) ≠ 0 := by
  intro h
  rw [ZMod.natCast_eq_zero_iff] at h
  exact h0 (Nat.eq_zero_of_dvd_of_lt h hlt)

theorem cast_inj (a b : Nat) (ha : a < P) (hb : b < P) (h : (a : FP) = (b : FP)) : a = b := by
  have := (ZMod.natCast_eq_natCast_iff' a b P).mp h
  rwa [Nat.mod_eq_of_lt ha, Nat.mod_eq_of_lt hb] at this

/-- Specification of the depth helper column `h0` (`1 / (depth - 16)`, zero at depth 16). -/
def H0ok (depth : Nat) (h0 : FP) : Prop :=
  if depth = 16 then h0 = 0 else h0 * ((depth : FP) - 16) = 1

/-- The value the processor writes (`h0Of`) meets the specification for every reachable depth. -/
theorem h0Of_ok (depth : Nat) (h16 : 16 ≤ depth) (hlt : depth < P) : H0ok depth ((h0Of depth : Nat) : FP) := by
  unfold H0ok h0Of
  by_cases h : depth = 16
  · simp [h]
  · have h1 : ¬ depth ≤ 16 := by omega
    simp only [h, h1, if_false]
    have hne : ((depth - 16 : Nat) : FP) ≠ 0 := cast_ne_zero _ (by omega) (by omega)
    rw [cast_finv _ hne]
    have : ((depth : FP) - 16) = ((depth - 16 : Nat) : FP) := by
      rw [Nat.cast_sub h16]
      norm_num
    rw [this]
    exact inv_mul_cancel₀ hne

/-- An honest transition: the rows of `vm` (executing `op` with the helper registers the processor
    writes) and of `vm'`; `b1'` follows the clock on right shifts. -/
def HonestHolds (vm vm' : Vm) (op : Op) : Prop :=
  ∀ (b1 b1' h0 h0' : FP) (opn : Nat) (hlpn : List Nat),
    H0ok vm.stack.length h0 → (isRight op = true → b1' = (vm.clk : FP)) →
    Holds (rowWith vm op.code (helpersOf op vm.stack) b1 h0) (rowWith vm' opn hlpn b1' h0')

/-- Canonical stack: every element is a canonical residue. -/
def Canon (vm : Vm) : Prop := ∀ x ∈ vm.stack, x < P

/-- A successful step is a successful `stepCore` whose result keeps the clock and the row log.  Only
    `honest_tac_addr` uses this form; the proofs go through `step_eq_stepCore`. -/
theorem step_ok {vm vm' : Vm} {op : Op} (h : vm.step op = .ok vm') :
    ∃ r, vm.stepCore op = .ok r ∧ vm' = { r with clk := vm.clk, trace := vm.trace } := by
  unfold step at h
  split at h
  · cases h
  · rename_i r hr
    cases h
    exact ⟨r, hr, rfl⟩

theorem rowWith_st {vm : Vm} {k : Nat} {hlp : List Nat} {b1 h0 : FP} {i : Nat} (hi : i < 16) :
    (rowWith vm k hlp b1 h0).st i = ((vm.stack.getD i 0 : Nat) : FP) := by
  simp only [Row.st, rowWith, c, List.getD_eq_getElem?_getD, List.getElem?_map, List.getElem?_take, hi,
    if_true]
  cases vm.stack[i]? <;> rfl

theorem rowWith_hp (vm : Vm) (k : Nat) (hlp : List Nat) (b1 h0 : FP) (i : Nat) :
    (rowWith vm k hlp b1 h0).hp i = ((hlp.getD i 0 : Nat) : FP) := by
  simp only [Row.hp, rowWith, c, List.getD_eq_getElem?_getD, List.getElem?_map]
  cases hlp[i]? <;> rfl

theorem rowWith_clk (vm : Vm) (k : Nat) (hlp : List Nat) (b1 h0 : FP) :
    (rowWith vm k hlp b1 h0).clk = (vm.clk : FP) := rfl
theorem rowWith_fmp (vm : Vm) (k : Nat) (hlp : List Nat) (b1 h0 : FP) :
    (rowWith vm k hlp b1 h0).fmp = (vm.fmp : FP) := rfl
theorem rowWith_b0 (vm : Vm) (k : Nat) (hlp : List Nat) (b1 h0 : FP) :
    (rowWith vm k hlp b1 h0).b0 = (vm.stack.length : FP) := rfl

/-- How the AIR's reading of an operation fits the model's: from the first cell after the operation's
    results on, the general constraints only ask for the shift that `stepCore_frame` provides, and
    they never read below cell 15; the composite shift flags are the model's shift classes; a left
    shift rewrites at most 15 cells. -/
def Fits (op : Op) : Prop :=
  (∀ i < 16, ∀ m, moveAt op i = some m →
    m.src i < 16 ∧ (nOut op ≤ i → m.src i + nOut op = i + nIn op)) ∧
  rightShiftAny (flagRow op.code) = (if isRight op then 1 else 0) ∧
  leftShiftAny (flagRow op.code) = (if isLeft op then 1 else 0) ∧
  (isRight op = true → isLeft op = false) ∧ (isLeft op = true → nOut op + 1 = nIn op ∧ nIn op ≤ 16)

instance (op : Op) : Decidable (Fits op) := by
  unfold Fits
  infer_instance

theorem fits (op : Op) (hc : op.isControl = false) : Fits op := by
  cases op
  -- `decide` refuses a free variable; nothing in `Fits` depends on the parameter of an operation
  case assert => exact (by decide : Fits (.assert 0))
  case u32assert2 => exact (by decide : Fits (.u32assert2 0))
  case push => exact (by decide : Fits (.push 0))
  all_goals first | exact absurd hc (by decide) | decide

theorem tied_of_none {op : Op} {Q : Nat → Move → Prop} (htop : ∀ i < nOut op, moveAt op i = none) :
    ∀ i < nOut op, ∀ m, moveAt op i = some m → Q i m := fun i hi m hm => by
  rw [htop i hi] at hm
  cases hm

theorem movup_tied {vm r : Vm} {op : Op} {n : Nat} (h : vm.movup n = .ok r)
    (hm : ∀ i < nOut op, ∀ m, moveAt op i = some m → 0 < i ∧ i ≤ n ∧ m = .down) :
    ∀ i < nOut op, ∀ m, moveAt op i = some m → r.stack.getD i 0 = vm.stack.getD (m.src i) 0 :=
  fun i hi m hm' => by
    obtain ⟨h0, hin, rfl⟩ := hm i hi m hm'
    obtain ⟨j, rfl⟩ := Nat.exists_eq_add_of_le' h0
    exact movup_cell (i := j) h (by omega)

theorem movdn_tied {vm r : Vm} {op : Op} {n : Nat} (h : vm.movdn n = .ok r)
    (hm : ∀ i < nOut op, ∀ m, moveAt op i = some m → i < n ∧ m = .up) :
    ∀ i < nOut op, ∀ m, moveAt op i = some m → r.stack.getD i 0 = vm.stack.getD (m.src i) 0 :=
  fun i hi m hm' => by
    obtain ⟨hin, rfl⟩ := hm i hi m hm'
    exact movdn_cell h hin

/-- The cells among those an operation rewrites (below `nOut op`) that the general constraints tie all
    the same: the ones MOVUPn / MOVDNn shift along, and the ones SWAPW2, SWAPW3, MSTREAM, PIPE leave in
    place between those they write.  The model moves them as the table `moves` says. -/
theorem stepCore_tied {vm r : Vm} {op : Op} (h : vm.stepCore op = .ok r) :
    ∀ i < nOut op, ∀ m, moveAt op i = some m → r.stack.getD i 0 = vm.stack.getD (m.src i) 0 := by
  cases op
  case movup2 | movup3 | movup4 | movup5 | movup6 | movup7 | movup8 =>
    exact movup_tied h (by decide)
  case movdn2 | movdn3 | movdn4 | movdn5 | movdn6 | movdn7 | movdn8 =>
    exact movdn_tied h (by decide)
  case swapw2 | swapw3 | mstream | pipe =>
    simp only [stepCore, validAddr] at h
    (repeat' (split at h)) <;> cases h
    intro i hi m hm
    have hi' : i < 16 := Nat.lt_of_lt_of_le hi (by decide)
    rw [‹vm.stack = _›]
    interval_cases i <;> cases hm <;> rfl
  -- every other operation: no such cell (by evaluation; `decide` refuses the parameter of `push v`)
  all_goals exact tied_of_none (of_decide_eq_true rfl)

theorem H0ok.overflow {depth : Nat} {h0 : FP} (hh : H0ok depth h0) :
    ((depth : FP) - 16) * h0 = if depth = 16 then 0 else 1 := by
  unfold H0ok at hh
  split at hh
  · simp [*]
  · rw [if_neg ‹_›]
    linear_combination hh

/-- The overflow constraints in the form `overflow_iff` gives them, from the depths before and after. -/
theorem overflow_honest {d d' : Nat} {L R : Bool} {ov x15 b1' clk : FP} (hl : 16 ≤ d)
    (hov : ov = if d = 16 then 0 else 1) (hLR : R = true → L = false)
    (hd : d' = if R then d + 1 else if L then max 16 (d - 1) else d) (hb : R = true → b1' = clk)
    (h15 : L = true → d = 16 → x15 = 0) :
    (d' : FP) - d + ((if L then 1 else 0 : ℤ) : FP) * ov - ((if R then 1 else 0 : ℤ) : FP) = 0 ∧
      (1 - ov) * ((d : FP) - 16) = 0 ∧ (b1' - clk) * ((if R then 1 else 0 : ℤ) : FP) = 0 ∧
      (1 - ov) * ((if L then 1 else 0 : ℤ) : FP) * x15 = 0 := by
  have h2 : (1 - ov) * ((d : FP) - 16) = 0 := by
    rw [hov]
    split <;> simp [*]
  rcases R with _ | _
  · rcases L with _ | _
    · simp [hd, h2]
    · by_cases h16 : d = 16
      · simp [hd, hov, h16, h15 rfl h16]
      · have : max 16 (d - 1) = d - 1 := by omega
        simp [hd, hov, h16, this, Nat.cast_sub (show 1 ≤ d by omega)]
  · simp [hd, hLR rfl, h2, hb rfl]

theorem honest_of {vm vm' : Vm} {op : Op} (hc : op.isControl = false) (hl : 16 ≤ vm.stack.length)
    (h : vm.step op = .ok vm')
    (hD : ∀ {b1 b1' h0 h0' : FP} {opn : Nat} {hlpn : List Nat},
      Demands (rowWith vm op.code (helpersOf op vm.stack) b1 h0) (rowWith vm' opn hlpn b1' h0') op) :
    HonestHolds vm vm' op := by
  intro b1 b1' h0 h0' opn hlpn hh hb
  have hcore := (step_eq_stepCore vm _).symm.trans h
  obtain ⟨hmv, hR, hL, hLR, hleft⟩ := fits op hc
  refine (holds_iff op rfl hc).mpr ⟨?_, hD, fun i hi m hm => ?_⟩
  · rw [overflow_iff op rfl hc, hR, hL, overflow_eq, rowWith_st (by decide : 15 < 16)]
    refine overflow_honest hl hh.overflow hLR (stepCore_depth hl hcore) hb fun hl' h16 => ?_
    -- a left shift at depth 16: cell 15 of the new stack is the (absent) cell 16 of the old one
    obtain ⟨e, hle⟩ := hleft hl'
    have := stepCore_frame hcore (15 - nOut op)
    rw [show 15 - nOut op + nOut op = 15 by omega, List.getD_eq_getElem?_getD (l := vm.stack),
      List.getElem?_eq_none (by omega)] at this
    exact congrArg Nat.cast this
  · obtain ⟨h16, hfr⟩ := hmv i hi m hm
    rw [rowWith_st hi, rowWith_st h16]
    congr 1
    rcases Nat.lt_or_ge i (nOut op) with hio | hio
    · exact stepCore_tied hcore i hio m hm
    · obtain ⟨j, rfl⟩ := Nat.exists_eq_add_of_le' hio
      rw [show m.src (j + nOut op) = j + nIn op by have := hfr hio; omega]
      exact stepCore_frame hcore j

/-- `honest_of` for an operation of which the AIR demands nothing but the frame. -/
theorem honest_frame {vm vm' : Vm} {op : Op} (hc : op.isControl = false) (hl : 16 ≤ vm.stack.length)
    (h : vm.step op = .ok vm')
    (hD : ∀ cur nxt : Row FP, Demands cur nxt op := by exact fun _ _ => {}) :
    HonestHolds vm vm' op :=
  honest_of hc hl h (hD _ _)

/-- Evaluates the demands of the AIR on two honest rows whose stacks are in the context.  Cells are read
    by `List.getD` on the explicit stacks; `simp`'s own normal form `l[i]?.getD` would have it prove
    `i < length` for every cell it reads. -/
macro "demands_simp" : tactic => `(tactic|
  simp [demands_iff, systemD, fieldD, manipD, u32D, ioD, topD, forall_lt_four, rowWith_st, rowWith_hp,
    rowWith_clk, rowWith_fmp, rowWith_b0, helpersOf, setStack, -List.getD_eq_getElem?_getD,
    List.getD_cons_zero, List.getD_cons_succ, getD_pad16, cast_fadd, cast_fmul, cast_fneg, cast_fsub, *])

set_option hygiene false in
/-- `honest_of` leaves the demands of the AIR: run the operation of `h` (the failing branches of its
    definition contradict it) and evaluate them. -/
macro "honest_run" : tactic => `(tactic| (
  refine honest_of rfl hl h ?_
  have hcore := (step_eq_stepCore vm _).symm.trans h
  simp only [stepCore] at hcore
  (repeat' (split at hcore)) <;> cases hcore <;> demands_simp))

/-! ### Direct evaluation

  The self-contained alternative to `honest_of` for a memory operation: name the sixteen visible cells,
  run the operation and let `simp` evaluate all 111 constraints on the explicit row pair.  It needs
  nothing of `holds_iff`, is about a hundred times slower to check and needs a raised heartbeat
  limit. -/

theorem split16 (l : List Nat) (h : 16 ≤ l.length) :
    ∃ x0 x1 x2 x3 x4 x5 x6 x7 x8 x9 x10 x11 x12 x13 x14 x15 t,
      l = x0 :: x1 :: x2 :: x3 :: x4 :: x5 :: x6 :: x7 :: x8 :: x9 :: x10 :: x11 :: x12 :: x13 :: x14 :: x15 :: t :=
  exists16 h

set_option hygiene false in
/-- Evaluate every constraint on the concrete row pair in the context (stack given by `hs`). -/
macro "honest_simp" : tactic => `(tactic| (
  simp [Holds, stackConstraints, overflowCs, systemCs, fieldCs, manipCs, u32Cs, ioCs, generalCs,
    rowWith, Row.st, Row.hp, Row.is, Row.inR, Op.code, c, helpersOf, pad16, setStack, isRight,
    noShift, leftShift, rightShift, leftShiftAny, rightShiftAny, topBinary, Row.overflow, bnot, isBinary,
    Row.isLoopEnd, Row.isCallEnd, Row.isSyscallEnd, List.range, List.range.loop,
    cast_fadd, cast_fmul, cast_fneg, cast_fsub, hs, H0ok, insertAt] at hh hb ⊢))

set_option hygiene false in
macro "honest_close" : tactic => `(tactic| (
  (try subst hb)
  (repeat' apply And.intro) <;>
    first
      | done
      | ring1
      | linear_combination hh
      | linear_combination (-1 : FP) * hh
      | (left; linear_combination hh)
      | (left; linear_combination (-1 : FP) * hh)
      | (right; ring1)))

set_option hygiene false in
/-- Memory operations: the address operand `a` must be a valid address, otherwise the step fails. -/
macro "honest_tac_addr" a:ident : tactic => `(tactic| (
  intro b1 b1' h0 h0' opn hlpn hh hb
  obtain ⟨x0, x1, x2, x3, x4, x5, x6, x7, x8, x9, x10, x11, x12, x13, x14, x15, t, hs⟩ := split16 _ hl
  obtain ⟨r, hcore, rfl⟩ := step_ok h
  simp only [stepCore, validAddr, hs] at hcore
  by_cases ha : $a > u32max
  · simp [ha] at hcore
  · simp only [ha, if_false] at hcore
    (repeat' (split at hcore)) <;> cases hcore <;> (try subst_vars) <;>
    (rcases t with _ | ⟨t0, t⟩) <;> honest_simp <;> honest_close))

end Miden.C03
