/-
  Total correctness with a cost bound, on the data view: `Completes C blk s s' n d` says that `blk`,
  started in context `C` on data `s` (stack, fmp, memory, advice tape), ends on data `s'` after at most
  `n` rows whenever fuel `d` and `n` more cycles are available.  Rules for spans, JOIN and `while.true`
  over one span.  Since execution is a function that more fuel and a higher limit do not change,
  whatever completed run exists ends where `Completes` says (`Completes.sound`): each procedure needs
  one theorem, its partial-correctness and its termination statement are corollaries.
-/
import Miden.Lemmas.AdvExec
import Miden.Lemmas.LimitMono
namespace Miden
open Vm Trunc

/-- `run` (a block, or the REPEAT / END tail of a loop), started in context `C` on data `s`, ends on
    data `s'` within `n` rows, given fuel `d` and `n` cycles. -/
def CompletesBy (run : Env → Nat → Vm → Except Err Vm) (C : Nat) (s s' : ASt) (n d : Nat) : Prop :=
  ∀ (env : Env) (fuel : Nat) (vm : Vm), vm.data = s → vm.ctx = C → d ≤ fuel →
    vm.clk + n ≤ env.maxCycles →
    ∃ vm', run env fuel vm = .ok vm' ∧ vm'.data = s' ∧ vm'.ctx = C ∧ vm'.clk ≤ vm.clk + n

abbrev Completes (C : Nat) (blk : Block) : ASt → ASt → Nat → Nat → Prop :=
  CompletesBy (fun env fuel => exec env fuel blk) C

namespace Completes
variable {C : Nat} {s s' s1 s2 : ASt} {n n1 n2 d d' : Nat}

theorem mono {blk : Block} {n' : Nat} (h : Completes C blk s s' n d) (hn : n ≤ n') (hd : d ≤ d') :
    Completes C blk s s' n' d' := by
  intro env fuel vm hs hc hf hb
  obtain ⟨vm', he, hs', hc', hk⟩ := h env fuel vm hs hc (by omega) (by omega)
  exact ⟨vm', he, hs', hc', by omega⟩

/-- A run that completes at all ends where `Completes` says: the executor is a function, more
    fuel and a higher limit do not change a completed run. -/
theorem sound {blk : Block} (h : Completes C blk s s' n d) {env : Env} {fuel : Nat} {vm vm' : Vm}
    (hs : vm.data = s) (hc : vm.ctx = C) (he : exec env fuel blk vm = .ok vm') :
    vm'.data = s' ∧ vm'.ctx = C ∧ vm'.clk ≤ vm.clk + n := by
  let m := max env.maxCycles (vm.clk + n)
  have e1 := (exec_mono_all env m fuel).1 blk vm vm' (max fuel d) he (Nat.le_max_left _ _)
    (Nat.le_trans (exec_prog he).2.1 (Nat.le_max_left _ _))
  obtain ⟨v, e2, hv⟩ := h (env.withMax m) (max fuel d) vm hs hc (Nat.le_max_right _ _) (Nat.le_max_right _ _)
  cases e1.symm.trans e2
  exact hv

theorem span {ops rows : List Op} (hf : SpanFacts Op.isASimple ops rows) (hr : runA C rows s = .ok s') :
    Completes C (.span ops) s s' (rows.length + 2) 1 := by
  obtain ⟨rfl, hc, hm⟩ := hf
  rw [deRespan_length]
  intro env fuel vm hs hctx hf hb
  obtain ⟨fuel, rfl⟩ : ∃ k, fuel = k + 1 := ⟨fuel - 1, by omega⟩
  have hrun : runOps (deRespan (spanRows ops)) vm
      = .ok { vm with stack := s'.stack, fmp := s'.fmp, mem := s'.mem, adv := s'.adv } := by
    rw [runOps_a _ hm vm, hctx]
    show (match runA C _ vm.data with | .ok s => _ | .error e => _) = _
    rw [hs, hr]
  exact ⟨_, (exec_span_ok_iff hc).mpr ⟨_, hrun, by omega, rfl⟩, rfl, hctx, by simp [reclk]; omega⟩

theorem spanM {ops rows : List Op} {t : List Nat} {f : Nat} {m : Mem} {a : List Nat} {st : MSt}
    (hf : SpanFacts Op.isMSimple ops rows) (hr : runM C rows ⟨t, f, m⟩ = .ok st) :
    Completes C (.span ops) ⟨t, f, m, a⟩ ⟨st.stack, st.fmp, st.mem, a⟩ (rows.length + 2) 1 :=
  span hf.toA (by rw [runA_m hf.2.2, hr]; rfl)

theorem join {a b : Block} {d1 d2 : Nat} (ha : Completes C a s s1 n1 d1) (hb : Completes C b s1 s2 n2 d2) :
    Completes C (.join a b) s s2 (n1 + n2 + 2) (max d1 d2 + 1) := by
  intro env fuel vm hs hctx hf hbud
  obtain ⟨fuel, rfl⟩ : ∃ k, fuel = k + 1 := ⟨fuel - 1, by omega⟩
  obtain ⟨v1, h1, hs1, hc1, hk1⟩ : ∃ v1, vm.execRow env .noop .join = .ok v1 ∧ v1.data = s ∧ v1.ctx = C ∧
      v1.clk = vm.clk + 1 := ⟨_, execRow_ok_iff.mpr ⟨vm, step_noop vm, by omega, rfl⟩, hs, hctx, rfl⟩
  obtain ⟨v2, e2, hs2, hc2, hk2⟩ := ha env fuel v1 hs1 hc1 (by omega) (by omega)
  obtain ⟨v3, e3, hs3, hc3, hk3⟩ := hb env fuel v2 hs2 hc2 (by omega) (by omega)
  exact ⟨_, exec_join_ok.mpr ⟨v1, v2, v3, h1, e2, e3, execRow_ok_iff.mpr ⟨v3, step_noop v3, by omega, rfl⟩⟩,
    hs3, hc3, by simp only [reclk]; omega⟩

theorem stack_of_data {vm : Vm} {c : Nat} {s : ASt} (hs : vm.data = { s with stack := c :: s.stack }) :
    vm.stack = c :: s.stack := congrArg ASt.stack hs

theorem peek_of_data {vm : Vm} {c : Nat} {s : ASt} (hs : vm.data = { s with stack := c :: s.stack }) :
    vm.peek = c := by
      rw [peek, stack_of_data hs]
      rfl

/-- The LOOP, REPEAT and END rows of a loop pop the flag.  Below it the stack has to be 16 deep, or the
    pop would shift a zero in: that is why `loop` asks `hlen` of its invariant. -/
theorem drop_row (env : Env) (row : Op) {vm : Vm} {c : Nat} {s : ASt}
    (hs : vm.data = { s with stack := c :: s.stack }) (hl : 16 ≤ s.stack.length)
    (hb : vm.clk + 1 ≤ env.maxCycles) :
    ∃ v1, vm.execRow env .drop row = .ok v1 ∧ v1.data = s ∧ v1.ctx = vm.ctx ∧ v1.clk = vm.clk + 1 := by
  refine ⟨_, execRow_ok_iff.mpr ⟨_, step_drop vm c s.stack (stack_of_data hs), hb, rfl⟩, ?_, rfl, rfl⟩
  obtain ⟨t, f, m, a⟩ := s
  simp only [Vm.data, ASt.mk.injEq] at hs ⊢
  simp [reclk, pad16_eq, padN_of_le hl, hs]

/-- `while.true` over one span: `J k` describes the data below the flag when `k` iterations are due.
    Cycles: per iteration the flag row, SPAN, the rows and END; then the closing END (LOOP and END when
    no iteration is due). -/
theorem loop {body rows : List Op} (hrows : SpanFacts Op.isASimple body rows) (J : Nat → ASt → Prop)
    (hlen : ∀ k s, J k s → 16 ≤ s.stack.length)
    (hstep : ∀ k s, J (k + 1) s → ∃ c s', runA C rows s = .ok { s' with stack := c :: s'.stack } ∧
      J k s' ∧ (c = 1 ↔ k ≠ 0) ∧ (c = 0 ↔ k = 0))
    {k c : Nat} {s : ASt} (hj : J k s) (hc : (c = 1 ↔ k ≠ 0) ∧ (c = 0 ↔ k = 0)) :
    ∃ s', J 0 s' ∧ Completes C (.loop (.span body)) { s with stack := c :: s.stack } s'
      (k * (rows.length + 3) + 2) (k + 2) := by
  -- the REPEAT / END tail, by induction on the iterations that are due
  have tail : ∀ k c s, J k s → (c = 1 ↔ k ≠ 0) ∧ (c = 0 ↔ k = 0) → ∃ s', J 0 s' ∧
      CompletesBy (fun env fuel => loopIter env fuel (.span body)) C { s with stack := c :: s.stack } s'
        (k * (rows.length + 3) + 1) (k + 1) := by
    intro k
    induction k with
    | zero =>
      intro c s hj hc
      refine ⟨s, hj, fun env fuel vm hs hctx hf hb => ?_⟩
      obtain ⟨fuel, rfl⟩ : ∃ n, fuel = n + 1 := ⟨fuel - 1, by omega⟩
      obtain ⟨v1, e1, hs1, hc1, hk1⟩ := drop_row env .end hs (hlen 0 s hj) (by omega)
      have hp : vm.peek = 0 := (peek_of_data hs).trans (hc.2.mpr rfl)
      exact ⟨v1, loopIter_ok.mpr (.inl ⟨hp, e1⟩), hs1, hc1.trans hctx, by omega⟩
    | succ k ih =>
      intro c s hj hc
      obtain ⟨c', s1, hrun, hj1, hc'⟩ := hstep k s hj
      obtain ⟨s', hj', htail⟩ := ih c' s1 hj1 hc'
      refine ⟨s', hj', fun env fuel vm hs hctx hf hb => ?_⟩
      obtain ⟨fuel, rfl⟩ : ∃ n, fuel = n + 1 := ⟨fuel - 1, by omega⟩
      have hmul : (k + 1) * (rows.length + 3)
          = k * (rows.length + 3) + (rows.length + 3) := Nat.succ_mul _ _
      obtain ⟨v1, e1, hs1, hc1, hk1⟩ := drop_row env .repeat hs (hlen _ s hj) (by omega)
      obtain ⟨v2, e2, hs2, hc2, hk2⟩ := span hrows hrun env fuel v1 hs1 (hc1.trans hctx) (by omega) (by omega)
      obtain ⟨v3, e3, hs3, hc3, hk3⟩ := htail env fuel v2 hs2 hc2 (by omega) (by omega)
      have hp : vm.peek = 1 := (peek_of_data hs).trans (hc.1.mpr (Nat.succ_ne_zero k))
      exact ⟨v3, loopIter_ok.mpr (.inr ⟨hp, v1, v2, e1, e2, e3⟩), hs3, hc3, by omega⟩
  cases k with
  | zero =>
    refine ⟨s, hj, fun env fuel vm hs hctx hf hb => ?_⟩
    obtain ⟨fuel, rfl⟩ : ∃ n, fuel = n + 1 := ⟨fuel - 1, by omega⟩
    obtain ⟨v1, e1, hs1, hc1, hk1⟩ := drop_row env .loop hs (hlen 0 s hj) (by omega)
    have hp : vm.peek = 0 := (peek_of_data hs).trans (hc.2.mpr rfl)
    exact ⟨_, exec_loop_ok.mpr ⟨v1, e1, .inl ⟨hp, execRow_ok_iff.mpr ⟨v1, step_noop v1, by omega, rfl⟩⟩⟩,
      hs1, hc1.trans hctx, by simp only [reclk]; omega⟩
  | succ k =>
    obtain ⟨c', s1, hrun, hj1, hc'⟩ := hstep k s hj
    obtain ⟨s', hj', htail⟩ := tail k c' s1 hj1 hc'
    refine ⟨s', hj', fun env fuel vm hs hctx hf hb => ?_⟩
    obtain ⟨fuel, rfl⟩ : ∃ n, fuel = n + 1 := ⟨fuel - 1, by omega⟩
    have hmul : (k + 1) * (rows.length + 3)
        = k * (rows.length + 3) + (rows.length + 3) := Nat.succ_mul _ _
    obtain ⟨v1, e1, hs1, hc1, hk1⟩ := drop_row env .loop hs (hlen _ s hj) (by omega)
    obtain ⟨v2, e2, hs2, hc2, hk2⟩ := span hrows hrun env fuel v1 hs1 (hc1.trans hctx) (by omega) (by omega)
    obtain ⟨v3, e3, hs3, hc3, hk3⟩ := htail env fuel v2 hs2 hc2 (by omega) (by omega)
    have hp : vm.peek = 1 := (peek_of_data hs).trans (hc.1.mpr (Nat.succ_ne_zero k))
    exact ⟨v3, exec_loop_ok.mpr ⟨v1, e1, .inr ⟨hp, v2, e2, e3⟩⟩, hs3, hc3, by omega⟩

theorem loopM {body rows : List Op} (hf : SpanFacts Op.isMSimple body rows)
    (J : Nat → List Nat → Nat → Mem → Prop) (hlen : ∀ k t f m, J k t f m → 16 ≤ t.length)
    (hstep : ∀ k t f m, J (k + 1) t f m → ∃ c t' f' m',
      runM C rows ⟨t, f, m⟩ = .ok ⟨c :: t', f', m'⟩ ∧ J k t' f' m' ∧ (c = 1 ↔ k ≠ 0) ∧ (c = 0 ↔ k = 0))
    {k c : Nat} {t : List Nat} {f : Nat} {m : Mem} (a : List Nat) (hj : J k t f m)
    (hc : (c = 1 ↔ k ≠ 0) ∧ (c = 0 ↔ k = 0)) :
    ∃ t' f' m', J 0 t' f' m' ∧ Completes C (.loop (.span body)) ⟨c :: t, f, m, a⟩ ⟨t', f', m', a⟩
      (k * (rows.length + 3) + 2) (k + 2) := by
  obtain ⟨s', ⟨hj', ha⟩, h⟩ := loop (C := C) hf.toA
    (fun k s => J k s.stack s.fmp s.mem ∧ s.adv = a) (fun k s h => hlen k _ _ _ h.1)
    (fun k s ⟨h, ha⟩ => by
      obtain ⟨c, t', f', m', hr, hj, hc⟩ := hstep k _ _ _ h
      refine ⟨c, ⟨t', f', m', a⟩, ?_, ⟨hj, rfl⟩, hc⟩
      obtain ⟨t, f, m, a⟩ := s
      cases ha
      rw [runA_m hf.2.2, hr]
      rfl)
    (s := ⟨t, f, m, a⟩) ⟨hj, rfl⟩ hc
  obtain ⟨t', f', m', a'⟩ := s'
  cases ha
  exact ⟨t', f', m', hj', h⟩

end Completes

/-! The same rules in the vocabulary of `D` / `DA`, with fuel and budget as hypotheses (corollaries). -/

theorem exec_span_D_fwd {env : Env} {fuel : Nat} {ops : List Op} {vm : Vm} {s f m c} {st : MSt}
    (hc : Op.clk ∉ spanRows ops) (hm : (deRespan (spanRows ops)).all Op.isMSimple = true)
    (hd : D vm s f m c) (hr : runM c (deRespan (spanRows ops)) ⟨s, f, m⟩ = .ok st)
    (hb : vm.clk + (spanRows ops).length + 2 ≤ env.maxCycles) :
    ∃ vm', Vm.exec env (fuel + 1) (.span ops) vm = .ok vm' ∧ D vm' st.stack st.fmp st.mem c ∧
      vm'.clk = vm.clk + (spanRows ops).length + 2 := by
  obtain ⟨hs, hf, hmm, hcc⟩ := hd
  have hrun : runOps (deRespan (spanRows ops)) vm
      = .ok { vm with stack := st.stack, fmp := st.fmp, mem := st.mem } := by
    rw [runOps_m _ hm vm, hs, hf, hmm, hcc, hr]
  exact ⟨_, (exec_span_ok_iff hc).mpr ⟨_, hrun, hb, rfl⟩, ⟨rfl, rfl, rfl, hcc⟩, rfl⟩

/-- Forward rule for `while.true` with the advice tape: with `K` iterations to go, fuel `≥ K + 2` and a
    cycle budget of `K·(rows + 3) + 2`, the loop completes in a state satisfying the invariant at 0. -/
theorem loop_fwd_a (env : Env) (body : List Op) (hc : Op.clk ∉ spanRows body)
    (hm : (deRespan (spanRows body)).all Op.isASimple = true) (C : Nat)
    (J : Nat → List Nat → Nat → Mem → List Nat → Prop)
    (hlen : ∀ k t f m a, J k t f m a → 16 ≤ t.length)
    (hstep : ∀ k t f m a, J (k + 1) t f m a → ∃ c t' f' m' a',
      runA C (deRespan (spanRows body)) ⟨t, f, m, a⟩ = .ok ⟨c :: t', f', m', a'⟩ ∧ J k t' f' m' a' ∧
      (c = 1 ↔ k ≠ 0) ∧ (c = 0 ↔ k = 0))
    (k fuel : Nat) (vm : Vm) (c : Nat) (t : List Nat) (f : Nat) (m : Mem) (a : List Nat)
    (hd : DA vm (c :: t) f m a C) (hj : J k t f m a) (h1 : c = 1 ↔ k ≠ 0) (h0 : c = 0 ↔ k = 0)
    (hf : k + 2 ≤ fuel) (hb : vm.clk + k * ((spanRows body).length + 3) + 2 ≤ env.maxCycles) :
    ∃ vm' t' f' m' a', Vm.exec env fuel (.loop (.span body)) vm = .ok vm' ∧ DA vm' t' f' m' a' C ∧ J 0 t' f' m' a' ∧
      vm'.clk ≤ vm.clk + k * ((spanRows body).length + 3) + 2 := by
  obtain ⟨⟨t', f', m', a'⟩, hj', hl⟩ := Completes.loop (C := C) ⟨rfl, hc, hm⟩ (fun k s => J k s.stack s.fmp s.mem s.adv)
    (fun k s => hlen k _ _ _ _)
    (fun k s h => by
      obtain ⟨c, t', f', m', a', hr, hj, hc⟩ := hstep k _ _ _ _ h
      exact ⟨c, ⟨t', f', m', a'⟩, hr, hj, hc⟩)
    (s := ⟨t, f, m, a⟩) hj ⟨h1, h0⟩
  rw [deRespan_length] at hl
  obtain ⟨vm', he, hd', hc', hk⟩ := hl env fuel vm (DA_iff.mp hd).1 (DA_iff.mp hd).2 hf (by omega)
  exact ⟨vm', t', f', m', a', he, DA_iff.mpr ⟨hd', hc'⟩, hj', by omega⟩

theorem loop_fwd (env : Env) (body : List Op) (hc : Op.clk ∉ spanRows body)
    (hm : (deRespan (spanRows body)).all Op.isMSimple = true) (C : Nat)
    (J : Nat → List Nat → Nat → Mem → Prop)
    (hlen : ∀ k t f m, J k t f m → 16 ≤ t.length)
    (hstep : ∀ k t f m, J (k + 1) t f m → ∃ c t' f' m',
      runM C (deRespan (spanRows body)) ⟨t, f, m⟩ = .ok ⟨c :: t', f', m'⟩ ∧ J k t' f' m' ∧
      (c = 1 ↔ k ≠ 0) ∧ (c = 0 ↔ k = 0))
    (k fuel : Nat) (vm : Vm) (c : Nat) (t : List Nat) (f : Nat) (m : Mem)
    (hd : D vm (c :: t) f m C) (hj : J k t f m) (h1 : c = 1 ↔ k ≠ 0) (h0 : c = 0 ↔ k = 0)
    (hf : k + 2 ≤ fuel) (hb : vm.clk + k * ((spanRows body).length + 3) + 2 ≤ env.maxCycles) :
    ∃ vm' t' f' m', Vm.exec env fuel (.loop (.span body)) vm = .ok vm' ∧ D vm' t' f' m' C ∧ J 0 t' f' m' ∧
      vm'.clk ≤ vm.clk + k * ((spanRows body).length + 3) + 2 := by
  obtain ⟨t', f', m', hj', hl⟩ := Completes.loopM (C := C) ⟨rfl, hc, hm⟩ J hlen hstep vm.adv hj ⟨h1, h0⟩
  rw [deRespan_length] at hl
  obtain ⟨vm', he, hd', hc', hk⟩ := hl env fuel vm (DA_iff.mp (D_iff_DA.mp hd)).1 hd.2.2.2 hf (by omega)
  exact ⟨vm', t', f', m', he, ⟨congrArg ASt.stack hd', congrArg ASt.fmp hd', congrArg ASt.mem hd', hc'⟩, hj', by omega⟩

namespace Memcopy

/-- While-loop rule for partial correctness: from a state with condition `c` ("k ≠ 0") on top of a
    `J k` state, every completed execution of the loop ends in a `J 0` state. -/
theorem loop_rule (env : Env) (body : List Op) (hc : Op.clk ∉ spanRows body)
    (hm : (deRespan (spanRows body)).all Op.isMSimple = true) (C : Nat)
    (J : Nat → List Nat → Nat → Mem → Prop)
    (hlen : ∀ k t f m, J k t f m → 16 ≤ t.length)
    (hstep : ∀ k t f m, J (k + 1) t f m → ∃ c t' f' m',
      runM C (deRespan (spanRows body)) ⟨t, f, m⟩ = .ok ⟨c :: t', f', m'⟩ ∧ J k t' f' m' ∧
      (c = 1 ↔ k ≠ 0) ∧ (c = 0 ↔ k = 0))
    (k fuel : Nat) (vm vm' : Vm) (c : Nat) (t : List Nat) (f : Nat) (m : Mem)
    (hd : D vm (c :: t) f m C) (hj : J k t f m) (h1 : c = 1 ↔ k ≠ 0) (h0 : c = 0 ↔ k = 0)
    (h : Vm.exec env fuel (.loop (.span body)) vm = .ok vm') :
    ∃ t' f' m', D vm' t' f' m' C ∧ J 0 t' f' m' := by
  obtain ⟨t', f', m', hj', hl⟩ := Completes.loopM (C := C) ⟨rfl, hc, hm⟩ J hlen hstep vm.adv hj ⟨h1, h0⟩
  obtain ⟨hd', hc', _⟩ := hl.sound (DA_iff.mp (D_iff_DA.mp hd)).1 hd.2.2.2 h
  exact ⟨t', f', m', ⟨congrArg ASt.stack hd', congrArg ASt.fmp hd', congrArg ASt.mem hd', hc'⟩, hj'⟩

end Memcopy

/-- The loop flag the procedures compute (`ps_not_ite`), `p` being their test for "no iteration is due". -/
theorem flag_iff {p q : Prop} [Decidable p] (h : p ↔ q) :
    ((if p then 0 else 1 : Nat) = 1 ↔ ¬ q) ∧ ((if p then 0 else 1 : Nat) = 0 ↔ q) := by
  cases propext h  -- `q` becomes `p`, whose `Decidable` instance the `if` uses
  split <;> simp [*]

end Miden
