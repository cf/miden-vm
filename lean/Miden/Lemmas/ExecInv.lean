/-
  Facts about block execution that need the per-operation lemmas of `Lemmas/Step.lean`: the visible
  stack stays at least 16 deep through any block, a NOOP row changes only clock and trace.
-/
import Miden.Lemmas.Exec
import Miden.Lemmas.Step
namespace Miden
namespace Vm

theorem execRow_len {env : Env} {vm vm' : Vm} {op row : Op} (hl : 16 ≤ vm.stack.length)
    (h : vm.execRow env op row = .ok vm') : 16 ≤ vm'.stack.length := by
  obtain ⟨s, hs, _, rfl⟩ := execRow_ok_iff.mp h
  exact (step_len hl hs : 16 ≤ s.stack.length)

theorem execRow_noop {env : Env} {vm vm' : Vm} {row : Op} (h : vm.execRow env .noop row = .ok vm') :
    vm' = { vm with clk := vm.clk + 1, trace := row :: vm.trace } := by
  obtain ⟨s, hs, _, rfl⟩ := execRow_ok_iff.mp h
  cases (step_noop vm).symm.trans hs
  rfl

theorem execOps_len {env : Env} : ∀ (rows : List Op) {vm vm' : Vm}, 16 ≤ vm.stack.length →
    execOps env rows vm = .ok vm' → 16 ≤ vm'.stack.length
  | [], vm, vm', hl, h => by unfold execOps at h; cases h; exact hl
  | op :: rest, vm, vm', hl, h => by
    obtain ⟨v, hr, h⟩ := execOps_cons_ok.mp h
    exact execOps_len rest (execRow_len hl hr) h

theorem enter_len {vm : Vm} {target : Word} {sc : Bool} (hl : 16 ≤ vm.stack.length) :
    16 ≤ (vm.enter target sc).stack.length := by
  rw [enter_stack, List.length_take]
  omega

theorem exec_len_all (env : Env) : ∀ fuel : Nat,
    (∀ b vm vm', 16 ≤ vm.stack.length → exec env fuel b vm = .ok vm' → 16 ≤ vm'.stack.length) ∧
    (∀ vm vm', 16 ≤ vm.stack.length → execDyn env fuel vm = .ok vm' → 16 ≤ vm'.stack.length) ∧
    (∀ body vm vm', 16 ≤ vm.stack.length → loopIter env fuel body vm = .ok vm' →
      16 ≤ vm'.stack.length) := by
  intro fuel
  induction fuel with
  | zero => exact ⟨fun _ _ _ _ h => absurd h exec_zero, fun _ _ _ h => absurd h execDyn_zero,
      fun _ _ _ _ h => absurd h loopIter_zero⟩
  | succ n ih =>
    obtain ⟨ihE, ihD, ihL⟩ := ih
    refine ⟨?_, ?_, ?_⟩
    · intro b vm vm' hl h
      cases b with
      | span ops =>
        obtain ⟨v1, v2, h1, h2, h3⟩ := exec_span_ok.mp h
        exact execRow_len (execOps_len _ (execRow_len hl h1) h2) h3
      | join a b =>
        obtain ⟨v1, v2, v3, h1, h2, h3, h4⟩ := exec_join_ok.mp h
        exact execRow_len (ihE _ _ _ (ihE _ _ _ (execRow_len hl h1) h2) h3) h4
      | split t f =>
        obtain ⟨v1, v2, h1, h2, h3⟩ := exec_split_ok.mp h
        have l1 := execRow_len hl h1
        exact execRow_len (h2.elim (fun h => ihE _ _ _ l1 h.2) (fun h => ihE _ _ _ l1 h.2)) h3
      | loop body =>
        obtain ⟨v1, h1, h2⟩ := exec_loop_ok.mp h
        have l1 := execRow_len hl h1
        rcases h2 with ⟨_, h2⟩ | ⟨_, v2, h2, h3⟩
        · exact execRow_len l1 h2
        · exact ihL _ _ _ (ihE _ _ _ l1 h2) h3
      | call target sc =>
        obtain ⟨_, v1, v2, h1, h2, _, h3⟩ := exec_call_ok.mp h
        have l1 := execRow_len (enter_len hl) h1
        have l2 : 16 ≤ v2.stack.length := by
          rcases h2 with ⟨_, h2⟩ | ⟨_, b, _, h2⟩
          · exact ihD _ _ l1 h2
          · exact ihE _ _ _ l1 h2
        exact execRow_len (by simp only [leave, List.length_append]; omega) h3
      | dyn => exact ihD _ _ hl (exec_dyn.symm.trans h)
      | proxy t => exact absurd h exec_proxy
    · intro vm vm' hl h
      obtain ⟨_, _, _, _, _, b, v1, v2, _, h1, _, h2, h3⟩ := execDyn_ok.mp h
      exact execRow_len (ihE _ _ _ (execRow_len hl h1) h2) h3
    · intro body vm vm' hl h
      rcases loopIter_ok.mp h with ⟨_, h1⟩ | ⟨_, v1, v2, h1, h2, h3⟩
      · exact execRow_len hl h1
      · exact ihL _ _ _ (ihE _ _ _ (execRow_len hl h1) h2) h3

theorem exec_len {env : Env} {fuel : Nat} {b : Block} {vm vm' : Vm} (hl : 16 ≤ vm.stack.length)
    (h : exec env fuel b vm = .ok vm') : 16 ≤ vm'.stack.length :=
  (exec_len_all env fuel).1 b vm vm' hl h

end Vm
end Miden
