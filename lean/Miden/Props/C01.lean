/-
  C01 — every successful execution is provable and its proof verifies.

  Completeness of the STARK itself (winterfell's prover/verifier: FRI, DEEP-ALI, random coin) is not
  modelled: it is exercised on every run (real `prove` → bytes → `verify` for every generated
  program and each of the four option sets).  Proved here is what Miden adds on top: the option
  sets the prover uses are exactly ones the verifier accepts for the tag the prover writes, their
  conjectured security level (winterfell's formula) is at least the configured one for every trace
  length that can occur, and the proof envelope survives the byte round trip.
-/
import Miden.Generated.ProvingOpts
import Miden.Props.C03
namespace Miden.C01

/-- Each standard proving option set is accepted by the verifier under the hash-function tag the
    prover attaches to it (the tables are the ones compiled into the crates, regenerated each run). -/
theorem accepted_options_cover_prover :
    ∀ s ∈ Generated.provingOptionSets, s.2.2.2 ∈ acceptable s.2.1 := by
  decide

/-- The security level winterfell reports for the 96-bit sets is ≥ 96 for every trace of up to 2^28
    rows, and for the 128-bit sets ≥ 128 for every trace length up to 2^32. -/
theorem security_level_ge (logLen : Nat) :
    (logLen ≤ 28 → 96 ≤ conjecturedSecurity REGULAR_96 logLen 96 ∧
                    96 ≤ conjecturedSecurity RECURSIVE_96 logLen 128) ∧
    (logLen ≤ 32 → 128 ≤ conjecturedSecurity REGULAR_128 logLen 128 ∧
                    128 ≤ conjecturedSecurity RECURSIVE_128 logLen 128) := by
  have l8 : Nat.log2 8 = 3 := by decide
  have l16 : Nat.log2 16 = 4 := by decide
  -- with 27 queries both blowups reach the 80 bits from which grinding counts: 3 · 27, 4 · 27 ≥ 80
  simp only [conjecturedSecurity, REGULAR_96, RECURSIVE_96, REGULAR_128, RECURSIVE_128, l8, l16,
    Nat.reduceMul, ge_iff_le, Nat.reduceLeDiff, reduceIte]
  omega

/-- The reported level for the generated sets, with the generated collision resistances, at the
    trace lengths the quick run actually proves (2^6 … 2^14). -/
theorem generated_sets_meet_their_level :
    ∀ s ∈ Generated.provingOptionSets, ∀ k ∈ [6, 7, 8, 9, 10, 11, 12, 13, 14],
      s.2.2.1 ≤ conjecturedSecurity s.2.2.2 k (Generated.collisionResistance.getD s.2.1 0) := by
  decide

/-- The proof envelope round-trips: tag byte first, any non-empty body. -/
theorem proof_envelope_roundtrip (tag : Nat) (body : List Nat) (ht : tag ≤ 2) (hb : body ≠ []) :
    proofFromBytes (proofToBytes tag body) = some (tag, body) := by
  cases body with
  | nil => exact absurd rfl hb
  | cons b rest => simp [proofFromBytes, proofToBytes, hashTag, ht]

/-- The trace a proof is generated from always has room. -/
theorem trace_has_room (clk r c : Nat) : clk + 2 ≤ traceLen clk r c :=
  (C03.trace_len_ok clk r c).1

example : (Generated.provingOptionSets.map (·.2.1)) = [0, 1, 2, 2] := by decide

end Miden.C01
