/-
  C09 — prover-supplied hints cannot change results.
  The host is an oracle: the advice tape and the Merkle paths it answers with are universally
  quantified.
-/
import Miden.Lemmas.Merkle
import Miden.Lemmas.U64Div
namespace Miden.C09
open Miden.Vm Miden.Merkle

/-- MPVERIFY (mtree_verify / mtree_get) completes only if the host's path has exactly the length
    given by the depth operand and folds the claimed node to the root on the stack. -/
theorem mpverify_checks {vm vm' : Vm} {v0 v1 v2 v3 d i r0 r1 r2 r3 : Nat} {rest : List Nat}
    {path : List Word} {paths : List (List Word)}
    (hs : vm.stack = v0 :: v1 :: v2 :: v3 :: d :: i :: r0 :: r1 :: r2 :: r3 :: rest)
    (hp : vm.paths = path :: paths) (h : vm.step .mpverify = .ok vm') :
    path.length = d ∧ merkleRoot [v3, v2, v1, v0] path i = [r3, r2, r1, r0] ∧
    vm'.stack = vm.stack := by
  rw [step_eq_stepCore] at h
  simp only [stepCore, hs, hp] at h
  split_ifs at h with h1 h2 h3
  cases h
  exact ⟨not_not.mp h1, h3, hs.symm⟩

/-- **No hint can make MPVERIFY accept a wrong node**: for every tree `t` whose root is on the
    stack and every path the host may answer with, if MPVERIFY completes then the claimed value is
    the tree's node at (depth, index) — or the proof exhibits an RPO `merge` collision. -/
theorem mpverify_sound (t : Tree) (vm vm' : Vm) (v0 v1 v2 v3 d i r0 r1 r2 r3 : Nat) (rest : List Nat)
    (path : List Word) (paths : List (List Word)) (w : List Nat)
    (hs : vm.stack = v0 :: v1 :: v2 :: v3 :: d :: i :: r0 :: r1 :: r2 :: r3 :: rest)
    (hp : vm.paths = path :: paths)
    (hroot : Tree.root Rpo.merge t = [r3, r2, r1, r0])
    (hnode : Tree.nodeAt Rpo.merge t d i = some w)
    (h : vm.step .mpverify = .ok vm') :
    w = [v3, v2, v1, v0] ∨ Collision Rpo.merge := by
  obtain ⟨hl, hf, _⟩ := mpverify_checks hs hp h
  exact merkleRoot_sound hl hf hroot hnode

/-- MRUPDATE (mtree_set): completes only with a path of the stated depth that folds the *old* value
    to the old root; the new root it pushes is the fold of the new value along the same path. -/
theorem mrupdate_checks {vm vm' : Vm} {v0 v1 v2 v3 d i r0 r1 r2 r3 n0 n1 n2 n3 : Nat}
    {rest : List Nat} {path : List Word} {paths : List (List Word)}
    (hs : vm.stack = v0 :: v1 :: v2 :: v3 :: d :: i :: r0 :: r1 :: r2 :: r3 :: n0 :: n1 :: n2 :: n3 :: rest)
    (hp : vm.paths = path :: paths) (h : vm.step .mrupdate = .ok vm') :
    path.length = d % two64 ∧ merkleRoot [v3, v2, v1, v0] path i = [r3, r2, r1, r0] ∧
    ∃ q0 q1 q2 q3, merkleRoot [n3, n2, n1, n0] path i = [q0, q1, q2, q3] ∧
      vm'.stack = q3 :: q2 :: q1 :: q0 :: d :: i :: r0 :: r1 :: r2 :: r3 :: n0 :: n1 :: n2 :: n3 :: rest := by
  rw [step_eq_stepCore] at h
  simp only [stepCore, hs, hp] at h
  split_ifs at h with hc hroot
  split at h
  · next q0 q1 q2 q3 hq =>
    cases h
    exact ⟨not_not.mp (not_or.mp hc).1, not_not.mp hroot, q0, q1, q2, q3, hq, rfl⟩
  · cases h

/-- The old value MRUPDATE was given is the tree's node at (depth, index), or a collision is
    exhibited — whatever path the host supplied. -/
theorem mrupdate_sound (t : Tree) (vm vm' : Vm) (v0 v1 v2 v3 d i r0 r1 r2 r3 n0 n1 n2 n3 : Nat)
    (rest : List Nat) (path : List Word) (paths : List (List Word)) (w : List Nat)
    (hs : vm.stack = v0 :: v1 :: v2 :: v3 :: d :: i :: r0 :: r1 :: r2 :: r3 :: n0 :: n1 :: n2 :: n3 :: rest)
    (hp : vm.paths = path :: paths) (hd : d < two64)
    (hroot : Tree.root Rpo.merge t = [r3, r2, r1, r0])
    (hnode : Tree.nodeAt Rpo.merge t d i = some w)
    (h : vm.step .mrupdate = .ok vm') :
    w = [v3, v2, v1, v0] ∨ Collision Rpo.merge := by
  obtain ⟨hl, hf, _⟩ := mrupdate_checks hs hp h
  rw [Nat.mod_eq_of_lt hd] at hl
  exact merkleRoot_sound hl hf hroot hnode

/-- Advice values arrive in the documented order: `adv_push` (ADVPOP) takes the top of the advice
    stack; `adv_loadw` (ADVPOPW) overwrites the top word so that the first value popped ends up
    deepest; `adv_pipe` (PIPE) does the same for two words and writes them to memory in pop order. -/
theorem advice_order (vm : Vm) (t0 t1 t2 t3 t4 t5 t6 t7 : Nat) (adv : List Nat)
    (ha : vm.adv = t0 :: t1 :: t2 :: t3 :: t4 :: t5 :: t6 :: t7 :: adv) :
    (vm.step .advpop = .ok { vm with adv := t1 :: t2 :: t3 :: t4 :: t5 :: t6 :: t7 :: adv,
                                      stack := t0 :: vm.stack }) ∧
    (∀ s0 s1 s2 s3 r, vm.stack = s0 :: s1 :: s2 :: s3 :: r →
      vm.step .advpopw = .ok { vm with adv := t4 :: t5 :: t6 :: t7 :: adv,
                                       stack := t3 :: t2 :: t1 :: t0 :: r }) ∧
    (∀ s0 s1 s2 s3 s4 s5 s6 s7 s8 s9 s10 s11 a r,
      vm.stack = s0 :: s1 :: s2 :: s3 :: s4 :: s5 :: s6 :: s7 :: s8 :: s9 :: s10 :: s11 :: a :: r →
      a + 1 ≤ u32max →
      vm.step .pipe = .ok { vm with
        adv := adv
        mem := (vm.mem.write vm.ctx a ⟨t0, t1, t2, t3⟩).write vm.ctx (a + 1) ⟨t4, t5, t6, t7⟩
        stack := t7 :: t6 :: t5 :: t4 :: t3 :: t2 :: t1 :: t0 :: s8 :: s9 :: s10 :: s11 :: (a + 2) :: r }) := by
  refine ⟨step_advpop vm _ _ ha, ?_, ?_⟩
  · intro s0 s1 s2 s3 r hs
    simp [step, stepCore, ha, hs]
  · intro s0 s1 s2 s3 s4 s5 s6 s7 s8 s9 s10 s11 a r hs hle
    have h1 : ¬ a > u32max := by omega
    have h2 : ¬ a + 1 > u32max := by omega
    simp [step, stepCore, ha, hs, validAddr, h1, h2]

/-- ADVPOP on an empty advice stack fails: no value is invented. -/
theorem advice_exhausted (vm : Vm) (ha : vm.adv = []) :
    vm.step .advpop = .error .adviceExhausted :=
  step_advpop_nil vm ha

/-!
`std::math::u64::div / mod / divmod` take quotient and remainder from the advice stack
(`adv.push_u64div`) and check them in-VM.  For the operation lists regenerated from u64.masm: two
machine states that differ only in what the host supplies (any tapes of any length, any field
elements) and both complete, complete with the same stack — the exact quotient / remainder (the
`…_sound` theorems of `Lemmas/U64Div.lean`, restated in `Props/C16.lean`). -/

theorem u64_div_result_independent_of_hint (vm vm2 : Vm) (bh bl ah al : Nat) (r out out2 : List Nat)
    (hs : vm.stack = bh :: bl :: ah :: al :: r) (hs2 : vm2.stack = bh :: bl :: ah :: al :: r)
    (h3 : bh < two32) (h2 : bl < two32) (h1 : ah < two32) (h0 : al < two32) (hr : 16 ≤ r.length)
    (h : stackRun Generated.u64_div vm = .ok out) (h' : stackRun Generated.u64_div vm2 = .ok out2) :
    out = out2 := by
  rw [(U64Div.u64_div_sound vm bh bl ah al r out hs h3 h2 h1 h0 hr h).2,
    (U64Div.u64_div_sound vm2 bh bl ah al r out2 hs2 h3 h2 h1 h0 hr h').2]

theorem u64_mod_result_independent_of_hint (vm vm2 : Vm) (bh bl ah al : Nat) (r out out2 : List Nat)
    (hs : vm.stack = bh :: bl :: ah :: al :: r) (hs2 : vm2.stack = bh :: bl :: ah :: al :: r)
    (h3 : bh < two32) (h2 : bl < two32) (h1 : ah < two32) (h0 : al < two32) (hr : 16 ≤ r.length)
    (h : stackRun Generated.u64_mod vm = .ok out) (h' : stackRun Generated.u64_mod vm2 = .ok out2) :
    out = out2 := by
  rw [(U64Div.u64_mod_sound vm bh bl ah al r out hs h3 h2 h1 h0 hr h).2,
    (U64Div.u64_mod_sound vm2 bh bl ah al r out2 hs2 h3 h2 h1 h0 hr h').2]

theorem u64_divmod_result_independent_of_hint (vm vm2 : Vm) (bh bl ah al : Nat) (r out out2 : List Nat)
    (hs : vm.stack = bh :: bl :: ah :: al :: r) (hs2 : vm2.stack = bh :: bl :: ah :: al :: r)
    (h3 : bh < two32) (h2 : bl < two32) (h1 : ah < two32) (h0 : al < two32) (hr : 16 ≤ r.length)
    (h : stackRun Generated.u64_divmod vm = .ok out) (h' : stackRun Generated.u64_divmod vm2 = .ok out2) :
    out = out2 := by
  rw [(U64Div.u64_divmod_sound vm bh bl ah al r out hs h3 h2 h1 h0 hr h).2,
    (U64Div.u64_divmod_sound vm2 bh bl ah al r out2 hs2 h3 h2 h1 h0 hr h').2]

-- Non-vacuity: a state satisfying the hypotheses of `advice_order` exists and pops in order.
example : (({ stack := List.replicate 16 0, adv := [11, 12, 13, 14, 15, 16, 17, 18] } : Vm).step
    .advpopw).toOption.map (·.stack.take 4) = some [14, 13, 12, 11] := by
  decide

end Miden.C09
