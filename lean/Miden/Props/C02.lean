/-
  C02 — a proof binds to its statement; altered statements or proofs are rejected.

  Soundness of the STARK (that a proof for one statement does not verify against another) is
  winterfell's; it is exercised on every run by altering every field of real statements and
  flipping / truncating real proof bytes.  Proved here is Miden's own binding layer: the tag and
  option-set logic and the totality of the envelope decoder.
-/
import Miden.Generated.ProvingOpts
namespace Miden.C02

/-- Relabelling the hash function never turns an option set into an acceptable one: for each
    standard set and each *other* tag the verifier's list for that tag does not contain it. -/
theorem tag_relabel_rejected :
    ∀ s ∈ Generated.provingOptionSets, ∀ t ∈ [0, 1, 2, 3, 4, 255], t ≠ s.2.1 →
      s.2.2.2 ∉ acceptable t := by
  decide

/-- Nothing outside the four standard option tuples is acceptable under any tag
    (weaker parameters are refused before any cryptographic check). -/
theorem only_standard_options_acceptable (t : Nat) (o : ProofOpts) (h : o ∈ acceptable t) :
    o = REGULAR_96 ∨ o = REGULAR_128 ∨ o = RECURSIVE_96 ∨ o = RECURSIVE_128 := by
  unfold acceptable at h
  repeat' split at h
  all_goals simp only [List.mem_cons, List.not_mem_nil, or_false] at h
  · exact .inl h
  · exact .inr (.inl h)
  · exact .inr (.inr h)

/-- The envelope decoder is total and refuses short inputs and unknown tags. -/
theorem from_bytes_total (bs : List Nat) :
    (bs.length < 2 → proofFromBytes bs = none) ∧
    (∀ t rest, bs = t :: rest → 2 < t → proofFromBytes bs = none) := by
  constructor
  · intro h
    simp [proofFromBytes, h]
  · intro t rest hb ht
    subst hb
    have : ¬ t ≤ 2 := by omega
    simp only [proofFromBytes, hashTag, this, if_false]
    split <;> rfl

/-- Whatever is accepted by the decoder re-encodes to the same bytes. -/
theorem decode_then_encode (bs : List Nat) (tag : Nat) (body : List Nat)
    (h : proofFromBytes bs = some (tag, body)) : proofToBytes tag body = bs := by
  unfold proofFromBytes at h
  split at h
  · cases h
  · cases bs with
    | nil => cases h
    | cons t rest =>
      simp only [hashTag] at h
      split at h
      · rename_i tg ht
        split at ht
        · cases ht
          cases h
          rfl
        · cases ht
      · cases h

example : proofFromBytes [1, 9, 9] = some (1, [9, 9]) := by decide

end Miden.C02
