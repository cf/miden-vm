/-
  C04 — the AIR rejects any deviation from an operation's defined effect.

  Soundness at an arbitrary field `F`: if all 111 stack transition constraints vanish on a row pair
  whose current row carries the opcode of operation X, then every enforced cell of the next row has
  exactly the value X defines (and the operation's failure condition is impossible).  Altering an
  enforced cell of a valid transition therefore makes some constraint non-zero (`air_rejects_add`).
  The constraint system reasoned about here is `Miden.Air.stackConstraints`, the same definition
  that is executed at `GF` and compared with `miden_air::stack::enforce_constraints` on every run.
-/
import Miden.Lemmas.AirSpec
namespace Miden.C04
open Miden.Air
variable {F : Type} [Field F]
open Classical  -- for `if cur.st 0 = cur.st 1` over an arbitrary field (EQ, EQZ)

/-- ADD (opcode 34): result on top, the rest shifted left. -/
theorem air_sound_add (cur nxt : Row F) (hop : cur.opcode = 34) (h : Holds cur nxt) :
    nxt.st 0 = cur.st 0 + cur.st 1 ∧ LeftFrom cur nxt 2 :=
  ⟨(h.demands .add hop).field.symm, h.leftFrom .add hop 2⟩

theorem air_sound_mul (cur nxt : Row F) (hop : cur.opcode = 35) (h : Holds cur nxt) :
    nxt.st 0 = cur.st 0 * cur.st 1 ∧ LeftFrom cur nxt 2 :=
  ⟨(h.demands .mul hop).field.symm, h.leftFrom .mul hop 2⟩

theorem air_sound_neg (cur nxt : Row F) (hop : cur.opcode = 2) (h : Holds cur nxt) :
    nxt.st 0 = -cur.st 0 ∧ CopyFrom cur nxt 1 :=
  ⟨eq_neg_of_add_eq_zero_right (h.demands .neg hop).field, h.copyFrom .neg hop 1⟩

/-- INV (3): the operand cannot be zero and the result is its inverse. -/
theorem air_sound_inv (cur nxt : Row F) (hop : cur.opcode = 3) (h : Holds cur nxt) :
    cur.st 0 ≠ 0 ∧ nxt.st 0 = (cur.st 0)⁻¹ ∧ CopyFrom cur nxt 1 := by
  have hf : cur.st 0 * nxt.st 0 = 1 := (h.demands .inv hop).field
  refine ⟨fun h0 => ?_, eq_inv_of_mul_eq_one_right hf, h.copyFrom .inv hop 1⟩
  rw [h0, zero_mul] at hf
  exact zero_ne_one hf

theorem air_sound_incr (cur nxt : Row F) (hop : cur.opcode = 4) (h : Holds cur nxt) :
    nxt.st 0 = cur.st 0 + 1 ∧ CopyFrom cur nxt 1 :=
  ⟨(h.demands .incr hop).field.symm, h.copyFrom .incr hop 1⟩

/-- ASSERT (32): passes only if the top is 1; the rest is shifted left. -/
theorem air_sound_assert (cur nxt : Row F) (hop : cur.opcode = 32) (h : Holds cur nxt) :
    cur.st 0 = 1 ∧ LeftFrom cur nxt 1 :=
  ⟨(h.demands (.assert 0) hop).system, h.leftFrom (.assert 0) hop 1⟩

/-- CLK (63): the pushed value is the clock. -/
theorem air_sound_clk (cur nxt : Row F) (hop : cur.opcode = 63) (h : Holds cur nxt) :
    nxt.st 0 = cur.clk ∧ RightFrom cur nxt 0 ∧ nxt.b0 = cur.b0 + 1 ∧ nxt.b1 = cur.clk :=
  ⟨(h.demands .clk hop).system, h.push .clk hop⟩

/-- NOT (5): operand binary, result `1 - a`. -/
theorem air_sound_not (cur nxt : Row F) (hop : cur.opcode = 5) (h : Holds cur nxt) :
    (cur.st 0 = 0 ∨ cur.st 0 = 1) ∧ nxt.st 0 = 1 - cur.st 0 ∧ CopyFrom cur nxt 1 :=
  ⟨binary_of_sq (h.demands .not hop).top, eq_sub_of_add_eq' (h.demands .not hop).field,
    h.copyFrom .not hop 1⟩

/-- AND (36): both operands binary, result their product. -/
theorem air_sound_and (cur nxt : Row F) (hop : cur.opcode = 36) (h : Holds cur nxt) :
    (cur.st 0 = 0 ∨ cur.st 0 = 1) ∧ (cur.st 1 = 0 ∨ cur.st 1 = 1) ∧
    nxt.st 0 = cur.st 0 * cur.st 1 ∧ LeftFrom cur nxt 2 := by
  obtain ⟨hb, hr⟩ := (h.demands .and hop).field
  exact ⟨binary_of_sq (h.demands .and hop).top, binary_of_sq hb, hr, h.leftFrom .and hop 2⟩

theorem air_sound_or (cur nxt : Row F) (hop : cur.opcode = 37) (h : Holds cur nxt) :
    (cur.st 0 = 0 ∨ cur.st 0 = 1) ∧ (cur.st 1 = 0 ∨ cur.st 1 = 1) ∧
    nxt.st 0 = cur.st 0 + cur.st 1 - cur.st 0 * cur.st 1 ∧ LeftFrom cur nxt 2 := by
  obtain ⟨hb, hr⟩ := (h.demands .or hop).field
  exact ⟨binary_of_sq (h.demands .or hop).top, binary_of_sq hb, hr, h.leftFrom .or hop 2⟩

/-- EQ (33): the result is 1 exactly when the operands are equal, 0 otherwise - for every value of
    the helper register the prover may choose. -/
theorem air_sound_eq (cur nxt : Row F) (hop : cur.opcode = 33) (h : Holds cur nxt) :
    nxt.st 0 = (if cur.st 0 = cur.st 1 then 1 else 0) ∧ LeftFrom cur nxt 2 := by
  obtain ⟨h1, h2⟩ := (h.demands .eq hop).field
  refine ⟨?_, h.leftFrom .eq hop 2⟩
  by_cases e : cur.st 0 = cur.st 1
  · rw [if_pos e, h2, e, sub_self, zero_mul, sub_zero]
  · rw [if_neg e]
    exact (mul_eq_zero.mp h1).resolve_left (sub_ne_zero.mpr e)

theorem air_sound_eqz (cur nxt : Row F) (hop : cur.opcode = 1) (h : Holds cur nxt) :
    nxt.st 0 = (if cur.st 0 = 0 then 1 else 0) ∧ CopyFrom cur nxt 1 := by
  obtain ⟨h1, h2⟩ := (h.demands .eqz hop).field
  refine ⟨?_, h.copyFrom .eqz hop 1⟩
  by_cases e : cur.st 0 = 0
  · rw [if_pos e, h2, e, zero_mul, sub_zero]
  · rw [if_neg e]
    exact (mul_eq_zero.mp h1).resolve_left e

theorem air_sound_swap (cur nxt : Row F) (hop : cur.opcode = 8) (h : Holds cur nxt) :
    nxt.st 0 = cur.st 1 ∧ nxt.st 1 = cur.st 0 ∧ CopyFrom cur nxt 2 := by
  obtain ⟨h0, h1⟩ := (h.demands .swap hop).manip
  exact ⟨h1.symm, h0.symm, h.copyFrom .swap hop 2⟩

/-- DROP (41): everything moves up; at depth 16 a zero is shifted in and the depth stays 16,
    otherwise the depth decreases by one. -/
theorem air_sound_drop (cur nxt : Row F) (hop : cur.opcode = 41) (h : Holds cur nxt) :
    LeftFrom cur nxt 1 ∧ (cur.b0 = 16 → nxt.st 15 = 0 ∧ nxt.b0 = 16) ∧
    (cur.b0 ≠ 16 → nxt.b0 = cur.b0 - 1) := by
  obtain ⟨h1, h2, h3⟩ := (overflow_left .drop hop).mp h.overflow
  refine ⟨h.leftFrom .drop hop 1, fun h16 => ?_, fun hne => ?_⟩
  · rw [overflow_eq, h16, sub_self, zero_mul] at h2 h3
    exact ⟨by linear_combination h3, by rw [h2, sub_zero]⟩
  · have : 1 - cur.overflow = 0 := (mul_eq_zero.mp h1).resolve_right (sub_ne_zero.mpr hne)
    linear_combination h2 + this

/-- PAD (48): a zero is pushed, everything moves down, the depth grows by one and the overflow
    address becomes the clock. -/
theorem air_sound_pad (cur nxt : Row F) (hop : cur.opcode = 48) (h : Holds cur nxt) :
    nxt.st 0 = 0 ∧ RightFrom cur nxt 0 ∧ nxt.b0 = cur.b0 + 1 ∧ nxt.b1 = cur.clk :=
  ⟨(h.demands .pad hop).manip, h.push .pad hop⟩

theorem air_sound_dup1 (cur nxt : Row F) (hop : cur.opcode = 50) (h : Holds cur nxt) :
    nxt.st 0 = cur.st 1 ∧ RightFrom cur nxt 0 ∧ nxt.b0 = cur.b0 + 1 :=
  ⟨(h.demands .dup1 hop).manip, h.rightFrom .dup1 hop 0,
    ((overflow_right .dup1 hop).mp h.overflow).2.1⟩

theorem air_sound_movup2 (cur nxt : Row F) (hop : cur.opcode = 10) (h : Holds cur nxt) :
    nxt.st 0 = cur.st 2 ∧ nxt.st 1 = cur.st 0 ∧ nxt.st 2 = cur.st 1 ∧ CopyFrom cur nxt 3 :=
  ⟨(h.demands .movup2 hop).manip, h.cell .movup2 hop (m := .down) (by decide) rfl,
    h.cell .movup2 hop (m := .down) (by decide) rfl, h.copyFrom .movup2 hop 3⟩

theorem air_sound_movdn2 (cur nxt : Row F) (hop : cur.opcode = 11) (h : Holds cur nxt) :
    nxt.st 2 = cur.st 0 ∧ nxt.st 0 = cur.st 1 ∧ nxt.st 1 = cur.st 2 ∧ CopyFrom cur nxt 3 :=
  ⟨(h.demands .movdn2 hop).manip.symm, h.cell .movdn2 hop (m := .up) (by decide) rfl,
    h.cell .movdn2 hop (m := .up) (by decide) rfl, h.copyFrom .movdn2 hop 3⟩

/-- SDEPTH (62): the pushed value is the depth register. -/
theorem air_sound_sdepth (cur nxt : Row F) (hop : cur.opcode = 62) (h : Holds cur nxt) :
    nxt.st 0 = cur.b0 ∧ RightFrom cur nxt 0 ∧ nxt.b0 = cur.b0 + 1 :=
  ⟨(h.demands .sdepth hop).io, h.rightFrom .sdepth hop 0,
    ((overflow_right .sdepth hop).mp h.overflow).2.1⟩

theorem air_sound_fmpadd (cur nxt : Row F) (hop : cur.opcode = 6) (h : Holds cur nxt) :
    nxt.st 0 = cur.st 0 + cur.fmp ∧ CopyFrom cur nxt 1 :=
  ⟨(h.demands .fmpadd hop).system.symm, h.copyFrom .fmpadd hop 1⟩

theorem air_sound_fmpupdate (cur nxt : Row F) (hop : cur.opcode = 47) (h : Holds cur nxt) :
    nxt.fmp = cur.fmp + cur.st 0 ∧ LeftFrom cur nxt 1 :=
  ⟨(h.demands .fmpupdate hop).system.symm, h.leftFrom .fmpupdate hop 1⟩

/-- EXPACC (15): the new bit is binary, and exponent, accumulator and shifted operand follow. -/
theorem air_sound_expacc (cur nxt : Row F) (hop : cur.opcode = 15) (h : Holds cur nxt) :
    (nxt.st 0 = 0 ∨ nxt.st 0 = 1) ∧ nxt.st 1 = cur.st 1 * cur.st 1 ∧
    nxt.st 2 = cur.st 2 * (1 + (cur.st 1 - 1) * nxt.st 0) ∧
    cur.st 3 = nxt.st 3 * 2 + nxt.st 0 ∧ CopyFrom cur nxt 4 := by
  obtain ⟨e1, e2, e3, e4⟩ := (h.demands .expacc hop).field
  refine ⟨binary_of_sq (h.demands .expacc hop).top, e1, ?_, e4, h.copyFrom .expacc hop 4⟩
  rw [e3]
  linear_combination cur.st 2 * e2

/-- CSWAP (42): condition binary, the two items below are swapped exactly when it is 1. -/
theorem air_sound_cswap (cur nxt : Row F) (hop : cur.opcode = 42) (h : Holds cur nxt) :
    (cur.st 0 = 0 ∧ nxt.st 0 = cur.st 1 ∧ nxt.st 1 = cur.st 2 ∨
     cur.st 0 = 1 ∧ nxt.st 0 = cur.st 2 ∧ nxt.st 1 = cur.st 1) ∧ LeftFrom cur nxt 3 := by
  obtain ⟨m1, m2⟩ := (h.demands .cswap hop).manip
  refine ⟨?_, h.leftFrom .cswap hop 3⟩
  rcases binary_of_sq (h.demands .cswap hop).top with h0 | h1
  · rw [h0] at m1 m2
    exact Or.inl ⟨h0, by linear_combination m1, by linear_combination m2⟩
  · rw [h1] at m1 m2
    exact Or.inr ⟨h1, by linear_combination m1, by linear_combination m2⟩

/-- U32ASSERT2 (74): both items equal the aggregation of the range-checked 16-bit helper limbs,
    and the stack is unchanged. -/
theorem air_sound_u32assert2 (cur nxt : Row F) (hop : cur.opcode = 74) (h : Holds cur nxt) :
    cur.st 0 = 65536 * cur.hp 1 + cur.hp 0 ∧ cur.st 1 = 65536 * cur.hp 3 + cur.hp 2 ∧
    CopyFrom cur nxt 0 := by
  obtain ⟨u1, u2⟩ := (h.demands (.u32assert2 0) hop).u32
  have hc := h.copyFrom (.u32assert2 0) hop 0
  exact ⟨by rw [← hc 0 (by decide) (by decide), u2, vLo_eq],
    by rw [← hc 1 (by decide) (by decide), u1, vHi_eq], hc⟩

/-- U32ADD (64): the sum of the operands equals the 48-bit aggregation of the helper limbs, whose
    low 32 bits / carry are the two results. -/
theorem air_sound_u32add (cur nxt : Row F) (hop : cur.opcode = 64) (h : Holds cur nxt) :
    cur.st 0 + cur.st 1 = 4294967296 * cur.hp 2 + (65536 * cur.hp 1 + cur.hp 0) ∧
    nxt.st 1 = 65536 * cur.hp 1 + cur.hp 0 ∧ nxt.st 0 = 65536 * cur.hp 3 + cur.hp 2 ∧
    CopyFrom cur nxt 2 := by
  obtain ⟨u1, u2, u3⟩ := (h.demands .u32add hop).u32
  exact ⟨by rw [u3, v48_eq], by rw [u1, vLo_eq], by rw [u2, vHi_eq], h.copyFrom .u32add hop 2⟩

/-- Uniqueness form of the property ("altering an enforced cell breaks a constraint"): two next rows
    that both satisfy every constraint after the same ADD row agree on every enforced cell. -/
theorem air_rejects_add (cur nxt nxt' : Row F) (hop : cur.opcode = 34)
    (h : Holds cur nxt) (h' : Holds cur nxt') :
    nxt'.st 0 = nxt.st 0 ∧ ∀ i, 2 ≤ i → i < 16 → nxt'.st (i - 1) = nxt.st (i - 1) := by
  obtain ⟨a, l⟩ := air_sound_add cur nxt hop h
  obtain ⟨a', l'⟩ := air_sound_add cur nxt' hop h'
  exact ⟨by rw [a, a'], fun i h1 h2 => by rw [l i h1 h2, l' i h1 h2]⟩

end Miden.C04
