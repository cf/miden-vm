/-
  C03 — honest execution traces satisfy the AIR: completeness of the stack AIR on honest rows.

  For every operation in `airProved` (76 of the 78 non-control operations - all that the executor
  model executes; u32 arithmetic on u32 operands), every machine state of depth ≥ 16 with canonical
  stack elements and every successful step `vm.step op = .ok vm'`, the row
  pair the processor writes — current row: clock, fmp, opcode, the helper registers of
  `helpersOf`, the top 16 stack cells, depth `b0`, any overflow address `b1`, the depth helper
  `h0 = 1/(b0 - 16)` (0 at depth 16); next row: the state after the step, with `b1' = clk` on right
  shifts — makes all 111 stack transition constraints of `Air.stackConstraints` vanish over the trace's
  base field `ZMod P` (`P` prime: `Lemmas/Prime.lean`).  This is the converse of the soundness theorems
  of C04, about the same constraint system, which is compared with `miden_air::stack::enforce_constraints`
  slot by slot on every run; `helpersOf`, `h0Of` and the next-row cells are compared with the rows of
  real traces on every run (`hrow` requests of the C03 generator).

  Not covered (left to the monitor on real traces): FRIE2F4 and RCOMBBASE (not in the executor model)
  and the rows of control operations.
-/

import Miden.Props.C03Air.Ops
import Miden.Props.C03Air.U32
namespace Miden.C03
open Miden.Air Miden.Vm

/-- Operations whose honest rows are proved to satisfy the stack AIR. -/
def airProved : Op → Bool
  | .frie2f4 | .rcombbase => false
  | op => !op.isControl

/-- The u32 arithmetic operations are defined on u32 operands only (on other operands they execute, but the row
    is not provable: known finding C03-u32-arith-on-non-u32-operands). -/
def U32Operands (vm : Vm) : Op → Prop
  | .u32add | .u32sub | .u32mul => vm.stack.getD 0 0 < two32 ∧ vm.stack.getD 1 0 < two32
  | .u32add3 | .u32madd => vm.stack.getD 0 0 < two32 ∧ vm.stack.getD 1 0 < two32 ∧ vm.stack.getD 2 0 < two32
  | _ => True

theorem honest_step_satisfies_stack_air (vm vm' : Vm) (op : Op) (hp : airProved op = true)
    (hl : 16 ≤ vm.stack.length) (hc : Canon vm) (hu : U32Operands vm op) (h : vm.step op = .ok vm') :
    HonestHolds vm vm' op := by
  cases op with
  | noop => exact honest_noop vm vm' hl h
  | fmpadd => exact honest_fmpadd vm vm' hl h
  | sdepth => exact honest_sdepth vm vm' hl h
  | clk => exact honest_clk vm vm' hl h
  | add => exact honest_add vm vm' hl h
  | neg => exact honest_neg vm vm' hl h
  | mul => exact honest_mul vm vm' hl h
  | incr => exact honest_incr vm vm' hl h
  | ext2mul => exact honest_ext2mul vm vm' hl h
  | pad => exact honest_pad vm vm' hl h
  | drop => exact honest_drop vm vm' hl h
  | dup0 => exact honest_dup0 vm vm' hl h
  | dup1 => exact honest_dup1 vm vm' hl h
  | dup2 => exact honest_dup2 vm vm' hl h
  | dup3 => exact honest_dup3 vm vm' hl h
  | dup4 => exact honest_dup4 vm vm' hl h
  | dup5 => exact honest_dup5 vm vm' hl h
  | dup6 => exact honest_dup6 vm vm' hl h
  | dup7 => exact honest_dup7 vm vm' hl h
  | dup9 => exact honest_dup9 vm vm' hl h
  | dup11 => exact honest_dup11 vm vm' hl h
  | dup13 => exact honest_dup13 vm vm' hl h
  | dup15 => exact honest_dup15 vm vm' hl h
  | swap => exact honest_swap vm vm' hl h
  | swapw => exact honest_swapw vm vm' hl h
  | swapw2 => exact honest_swapw2 vm vm' hl h
  | swapw3 => exact honest_swapw3 vm vm' hl h
  | swapdw => exact honest_swapdw vm vm' hl h
  | movup2 => exact honest_movup2 vm vm' hl h
  | movup3 => exact honest_movup3 vm vm' hl h
  | movup4 => exact honest_movup4 vm vm' hl h
  | movup5 => exact honest_movup5 vm vm' hl h
  | movup6 => exact honest_movup6 vm vm' hl h
  | movup7 => exact honest_movup7 vm vm' hl h
  | movup8 => exact honest_movup8 vm vm' hl h
  | movdn2 => exact honest_movdn2 vm vm' hl h
  | movdn3 => exact honest_movdn3 vm vm' hl h
  | movdn4 => exact honest_movdn4 vm vm' hl h
  | movdn5 => exact honest_movdn5 vm vm' hl h
  | movdn6 => exact honest_movdn6 vm vm' hl h
  | movdn7 => exact honest_movdn7 vm vm' hl h
  | movdn8 => exact honest_movdn8 vm vm' hl h
  | fmpupdate => exact honest_fmpupdate vm vm' hl h
  | advpop => exact honest_advpop vm vm' hl h
  | advpopw => exact honest_advpopw vm vm' hl h
  | mload => exact honest_mload vm vm' hl h
  | mloadw => exact honest_mloadw vm vm' hl h
  | mstore => exact honest_mstore vm vm' hl h
  | mstorew => exact honest_mstorew vm vm' hl h
  | mstream => exact honest_mstream vm vm' hl h
  | pipe => exact honest_pipe vm vm' hl h
  | caller => exact honest_caller vm vm' hl h
  | u32and => exact honest_u32and vm vm' hl h
  | u32xor => exact honest_u32xor vm vm' hl h
  | mpverify => exact honest_mpverify vm vm' hl h
  | mrupdate => exact honest_mrupdate vm vm' hl h
  | and => exact honest_and vm vm' hl h
  | or => exact honest_or vm vm' hl h
  | not => exact honest_not vm vm' hl h
  | cswap => exact honest_cswap vm vm' hl h
  | cswapw => exact honest_cswapw vm vm' hl h
  | expacc => exact honest_expacc vm vm' hl h
  | inv => exact honest_inv vm vm' hl hc h
  | eqz => exact honest_eqz vm vm' hl hc h
  | eq => exact honest_eq vm vm' hl hc h
  | push v => exact honest_push v vm vm' hl h
  | assert code => exact honest_assert code vm vm' hl h
  | u32assert2 code => exact honest_u32assert2 code vm vm' hl h
  | u32split => exact honest_u32split vm vm' hl hc h
  | u32add => exact honest_u32add vm vm' hl hu h
  | u32add3 => exact honest_u32add3 vm vm' hl hu h
  | u32sub => exact honest_u32sub vm vm' hl hu h
  | u32mul => exact honest_u32mul vm vm' hl hu h
  | u32madd => exact honest_u32madd vm vm' hl hu h
  | u32div => exact honest_u32div vm vm' hl h
  | hperm => exact honest_hperm vm vm' hl h
  | frie2f4 => exact absurd hp (by decide)
  | rcombbase => exact absurd hp (by decide)
  | join => exact absurd hp (by decide)
  | split => exact absurd hp (by decide)
  | loop => exact absurd hp (by decide)
  | call => exact absurd hp (by decide)
  | dyn => exact absurd hp (by decide)
  | syscall => exact absurd hp (by decide)
  | span => exact absurd hp (by decide)
  | «end» => exact absurd hp (by decide)
  | «repeat» => exact absurd hp (by decide)
  | respan => exact absurd hp (by decide)
  | halt => exact absurd hp (by decide)

/-- The depth helper the processor writes meets the hypothesis `H0ok` of `HonestHolds` at every
    reachable depth, so the theorem is not vacuous. -/
example : H0ok 16 ((h0Of 16 : Nat) : FP) ∧ H0ok 23 ((h0Of 23 : Nat) : FP) :=
  ⟨h0Of_ok 16 (by decide) (by decide), h0Of_ok 23 (by decide) (by decide)⟩

example : airProved .add = true ∧ airProved .mstream = true ∧ airProved (.push 7) = true
    ∧ airProved .u32mul = true ∧ airProved .hperm = true ∧ airProved .frie2f4 = false ∧ airProved .join = false := by decide

example : (Op.all.filter airProved).length = 76 := by decide

end Miden.C03
