/-
  C14 — execution is deterministic; the `clk` instruction pushes the clock.
  The model has no capacity hints, tracing flags or decorators at all: their irrelevance is a
  statement about the Rust code and is decided by the correspondence/metamorphic run.
-/
import Miden.Lemmas.LimitMono
import Miden.Lemmas.ClockErasure
namespace Miden.C14
open Miden.Vm

/-- `clk` pushes the current clock value and changes nothing else. -/
theorem clk_pushes_clock (vm : Vm) :
    vm.step .clk = .ok { vm with stack := vm.clk :: vm.stack } := by
  simp [step, stepCore, setStack]

/-- Operations never advance the clock or write trace rows themselves: every row is accounted for
    by exactly one `tick`. -/
theorem ops_do_not_touch_clock (vm vm' : Vm) (op : Op) (h : vm.step op = .ok vm') :
    vm'.clk = vm.clk ∧ vm'.trace = vm.trace := step_clk h

/-- Determinism across resource bounds: two sufficiently fuelled runs give the same result (the fuel
    is the model's only resource bound, the analogue of a capacity hint; `exec_fuel_mono`: more of it
    changes nothing). -/
theorem exec_deterministic (env : Env) (b : Block) (vm v1 v2 : Vm) (f1 f2 : Nat)
    (h1 : exec env f1 b vm = .ok v1) (h2 : exec env f2 b vm = .ok v2) : v1 = v2 :=
  Except.ok.inj ((exec_fuel_mono h1 (Nat.le_max_left f1 f2)).symm.trans
    (exec_fuel_mono h2 (Nat.le_max_right f1 f2)))

example : (({ stack := List.replicate 16 0, clk := 41 } : Vm).step .clk).toOption.map (·.stack.head!) = some 41 := by
  decide

/-- An operation other than CLK gives the same result at every clock value and decoder history:
    running it on the re-clocked state is re-clocking its result. -/
theorem op_result_independent_of_clock (vm : Vm) (op : Op) (c : Nat) (t : List Op) (h : op ≠ .clk) :
    (vm.reclk c t).step op = (vm.step op).map (fun r => r.reclk c t) :=
  step_reclk vm op c t h

/-- Executing a span that does not read the clock (SPAN row, batches with RESPAN rows and alignment
    NOOPs, END row — each row followed by a clock tick and the cycle-limit check) produces, up to clock
    and decoder history, exactly the state obtained by running its rows without any tick. -/
theorem span_result_independent_of_clock {env : Env} {fuel : Nat} {ops : List Op} {vm vm' : Vm}
    (hc : Op.clk ∉ spanRows ops) (h : Vm.exec env (fuel + 1) (.span ops) vm = .ok vm') :
    ∃ v, runOps (deRespan (spanRows ops)) vm = .ok v ∧ vm' = v.reclk vm'.clk vm'.trace := by
  obtain ⟨v, hv, _, rfl⟩ := (exec_span_ok_iff hc).mp h
  exact ⟨v, hv, rfl⟩

end Miden.C14
