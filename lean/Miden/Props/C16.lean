/-
  C16 — standard-library integer arithmetic is exact.
  Theorems are about `Generated.u64_*`: the operation lists the real assembler produces for
  `exec.u64::<proc>` (regenerated on every run).  Stack layout `[b_hi, b_lo, a_hi, a_lo, rest…]`,
  all limbs < 2^32, `rest` arbitrary (≥ 16 deep so that no zero padding is involved) and returned
  untouched.
-/
import Miden.Lemmas.U64Div
import Miden.Lemmas.U256
namespace Miden.C16

/-! Every proof below runs the operation list on the explicit stack (`u64_exec`: the simp set `pure_exec`), brings what the u32
    operations left into plain `/ 2^32`, `% 2^32` form (`u32_small`, `u32_sub_borrow` …) and compares
    with the 64-bit value of the limb pairs: a result pair by the one equation `u64of hi lo = value`
    (`limbs_of_u64of`), which `omega` decides far sooner than the two limbs one by one. -/

/-- `overflowing_add`: `[b_hi, b_lo, a_hi, a_lo] → [carry, c_hi, c_lo]`, `c = (a + b) mod 2^64`. -/
theorem u64_overflowing_add_exact : ∀ (vm : Vm) (bh bl ah al : Nat) (rest : List Nat),
    vm.stack = bh :: bl :: ah :: al :: rest → bh < two32 → bl < two32 → ah < two32 → al < two32 →
    16 ≤ rest.length →
    stackRun Generated.u64_overflowing_add vm =
      .ok ((u64of ah al + u64of bh bl) / two64 :: (u64of ah al + u64of bh bl) % two64 / two32
            :: (u64of ah al + u64of bh bl) % two32 :: rest) := by
  intro vm bh bl ah al r hs h3 h2 h1 h0 hr
  rw [stackRun_at hs]
  u64_exec Generated.u64_overflowing_add
  simp (disch := u32b) only [u32_small]
  refine congrArg Except.ok (List.cons_eq_cons.mpr ⟨?_, limbs_of_u64of r (mod_two32_lt _) ?_⟩)
  all_goals
    simp only [u64of, two64, two32] at *
    omega

/-- `wrapping_add`: `c = (a + b) mod 2^64`. -/
theorem u64_wrapping_add_exact : ∀ (vm : Vm) (bh bl ah al : Nat) (rest : List Nat),
    vm.stack = bh :: bl :: ah :: al :: rest → bh < two32 → bl < two32 → ah < two32 → al < two32 →
    16 ≤ rest.length →
    stackRun Generated.u64_wrapping_add vm =
      .ok ((u64of ah al + u64of bh bl) % two64 / two32 :: (u64of ah al + u64of bh bl) % two32 :: rest) := by
  intro vm bh bl ah al r hs h3 h2 h1 h0 hr
  rw [stackRun_at hs]
  u64_exec Generated.u64_wrapping_add
  simp (disch := u32b) only [u32_small]
  refine congrArg Except.ok (limbs_of_u64of r (mod_two32_lt _) ?_)
  simp only [u64of, two64, two32] at *
  omega

theorem u64_eq_exact : ∀ (vm : Vm) (bh bl ah al : Nat) (rest : List Nat),
    vm.stack = bh :: bl :: ah :: al :: rest → bh < two32 → bl < two32 → ah < two32 → al < two32 →
    16 ≤ rest.length →
    stackRun Generated.u64_eq vm = .ok ((if u64of ah al = u64of bh bl then 1 else 0) :: rest) := by
  intro vm bh bl ah al r hs h3 h2 h1 h0 hr
  rw [stackRun_at hs]
  u64_exec Generated.u64_eq
  -- the code compares `b` with `a`, the statement `a` with `b`
  simp (disch := assumption) only [bit_eq_one, u64of_eq_iff, eq_comm (a := bh), eq_comm (a := bl)]

theorem u64_neq_exact : ∀ (vm : Vm) (bh bl ah al : Nat) (rest : List Nat),
    vm.stack = bh :: bl :: ah :: al :: rest → bh < two32 → bl < two32 → ah < two32 → al < two32 →
    16 ≤ rest.length →
    stackRun Generated.u64_neq vm = .ok ((if u64of ah al ≠ u64of bh bl then 1 else 0) :: rest) := by
  intro vm bh bl ah al r hs h3 h2 h1 h0 hr
  rw [stackRun_at hs]
  u64_exec Generated.u64_neq
  simp (disch := assumption) only [one_sub_bit, bit_eq_one, ne_eq, u64of_eq_iff, not_and_or,
    eq_comm (a := bh), eq_comm (a := bl)]

/-- Bitwise procedures act limb-wise (AND / XOR of the 32-bit limbs). -/
theorem u64_and_exact : ∀ (vm : Vm) (bh bl ah al : Nat) (rest : List Nat),
    vm.stack = bh :: bl :: ah :: al :: rest → bh < two32 → bl < two32 → ah < two32 → al < two32 →
    16 ≤ rest.length →
    stackRun Generated.u64_and vm = .ok (Nat.land bh ah :: Nat.land bl al :: rest) := by
  intro vm bh bl ah al r hs h3 h2 h1 h0 hr
  rw [stackRun_at hs]
  u64_exec Generated.u64_and

theorem u64_xor_exact : ∀ (vm : Vm) (bh bl ah al : Nat) (rest : List Nat),
    vm.stack = bh :: bl :: ah :: al :: rest → bh < two32 → bl < two32 → ah < two32 → al < two32 →
    16 ≤ rest.length →
    stackRun Generated.u64_xor vm = .ok (Nat.xor bh ah :: Nat.xor bl al :: rest) := by
  intro vm bh bl ah al r hs h3 h2 h1 h0 hr
  rw [stackRun_at hs]
  u64_exec Generated.u64_xor

/-- `wrapping_sub`: `c = (a − b) mod 2^64`. -/
theorem u64_wrapping_sub_exact (vm : Vm) (bh bl ah al : Nat) (r : List Nat) (hs : vm.stack = bh :: bl :: ah :: al :: r)
    (h3 : bh < two32) (h2 : bl < two32) (h1 : ah < two32) (h0 : al < two32) (hr : 16 ≤ r.length) :
    stackRun Generated.u64_wrapping_sub vm = .ok ((u64of ah al + two64 - u64of bh bl) % two64 / two32 :: (u64of ah al + two64 - u64of bh bl) % two32 :: r) := by
  rw [stackRun_at hs]
  u64_exec Generated.u64_wrapping_sub
  simp (disch := binb) only [u32_sub_borrow_div, u32_sub_lo]
  refine congrArg Except.ok (limbs_of_u64of r (mod_two32_lt _) ?_)
  simp only [u64of, two64, two32] at *
  omega

/-- `overflowing_sub`: `[b_hi, b_lo, a_hi, a_lo] → [borrow, c_hi, c_lo]`, `c = (a − b) mod 2^64`, `borrow = [a < b]`. -/
theorem u64_overflowing_sub_exact (vm : Vm) (bh bl ah al : Nat) (r : List Nat) (hs : vm.stack = bh :: bl :: ah :: al :: r)
    (h3 : bh < two32) (h2 : bl < two32) (h1 : ah < two32) (h0 : al < two32) (hr : 16 ≤ r.length) :
    stackRun Generated.u64_overflowing_sub vm = .ok ((if u64of ah al < u64of bh bl then 1 else 0) :: (u64of ah al + two64 - u64of bh bl) % two64 / two32 :: (u64of ah al + two64 - u64of bh bl) % two32 :: r) := by
  rw [stackRun_at hs]
  u64_exec Generated.u64_overflowing_sub
  simp (disch := binb) only [u32_sub_borrow_div, u32_sub_lo]
  refine congrArg Except.ok (List.cons_eq_cons.mpr
    ⟨if_congr ?_ rfl rfl, limbs_of_u64of r (mod_two32_lt _) ?_⟩)
  all_goals
    simp only [u64of, two64, two32] at *
    omega

theorem u64_lt_pure {bh bl ah al : Nat} {r : List Nat} (h3 : bh < two32) (h2 : bl < two32) (h1 : ah < two32) (h0 : al < two32) (hr : 16 ≤ r.length) :
    runPure Generated.u64_lt (bh :: bl :: ah :: al :: r) = .ok ((if u64of ah al < u64of bh bl then 1 else 0) :: r) := by
  u64_exec Generated.u64_lt
  simp (disch := assumption) only [u32_sub_borrow, u32_sub_lo_eq_zero, bit_eq_one, u64of_lt_iff]

/-- `lt`: `[b_hi, b_lo, a_hi, a_lo] → [a < b]`. -/
theorem u64_lt_exact (vm : Vm) (bh bl ah al : Nat) (r : List Nat) (hs : vm.stack = bh :: bl :: ah :: al :: r)
    (h3 : bh < two32) (h2 : bl < two32) (h1 : ah < two32) (h0 : al < two32) (hr : 16 ≤ r.length) :
    stackRun Generated.u64_lt vm = .ok ((if u64of ah al < u64of bh bl then 1 else 0) :: r) := by
  rw [stackRun_at hs]
  exact u64_lt_pure h3 h2 h1 h0 hr

theorem u64_gt_pure {bh bl ah al : Nat} {r : List Nat} (h3 : bh < two32) (h2 : bl < two32) (h1 : ah < two32) (h0 : al < two32) (hr : 16 ≤ r.length) :
    runPure Generated.u64_gt (bh :: bl :: ah :: al :: r) = .ok ((if u64of ah al > u64of bh bl then 1 else 0) :: r) := by
  u64_exec Generated.u64_gt
  simp (disch := assumption) only [u32_sub_borrow, u32_sub_lo_eq_zero, bit_eq_one, u64of_lt_iff, gt_iff_lt, and_comm]

/-- `gt`: `[b_hi, b_lo, a_hi, a_lo] → [a > b]`. -/
theorem u64_gt_exact (vm : Vm) (bh bl ah al : Nat) (r : List Nat) (hs : vm.stack = bh :: bl :: ah :: al :: r)
    (h3 : bh < two32) (h2 : bl < two32) (h1 : ah < two32) (h0 : al < two32) (hr : 16 ≤ r.length) :
    stackRun Generated.u64_gt vm = .ok ((if u64of ah al > u64of bh bl then 1 else 0) :: r) := by
  rw [stackRun_at hs]
  exact u64_gt_pure h3 h2 h1 h0 hr

/-- `lte` is `gt` followed by `not`. -/
theorem u64_lte_exact (vm : Vm) (bh bl ah al : Nat) (r : List Nat) (hs : vm.stack = bh :: bl :: ah :: al :: r)
    (h3 : bh < two32) (h2 : bl < two32) (h1 : ah < two32) (h0 : al < two32) (hr : 16 ≤ r.length) :
    stackRun Generated.u64_lte vm = .ok ((if u64of ah al ≤ u64of bh bl then 1 else 0) :: r) := by
  rw [stackRun_at hs, show Generated.u64_lte = Generated.u64_gt ++ [.not] from rfl,
    runPure_append, u64_gt_pure h3 h2 h1 h0 hr]
  simp (disch := binb) only [pure_exec, one_sub_bit, gt_iff_lt, Nat.not_lt]

/-- `gte` is `lt` followed by `not`. -/
theorem u64_gte_exact (vm : Vm) (bh bl ah al : Nat) (r : List Nat) (hs : vm.stack = bh :: bl :: ah :: al :: r)
    (h3 : bh < two32) (h2 : bl < two32) (h1 : ah < two32) (h0 : al < two32) (hr : 16 ≤ r.length) :
    stackRun Generated.u64_gte vm = .ok ((if u64of ah al ≥ u64of bh bl then 1 else 0) :: r) := by
  rw [stackRun_at hs, show Generated.u64_gte = Generated.u64_lt ++ [.not] from rfl,
    runPure_append, u64_lt_pure h3 h2 h1 h0 hr]
  simp (disch := binb) only [pure_exec, one_sub_bit, ge_iff_le, Nat.not_lt]

/-- `wrapping_mul`: `[b_hi, b_lo, a_hi, a_lo] → [c_hi, c_lo]`, `c = (a · b) mod 2^64`, for all limbs < 2^32. -/
theorem u64_wrapping_mul_exact (vm : Vm) (bh bl ah al : Nat) (r : List Nat) (hs : vm.stack = bh :: bl :: ah :: al :: r)
    (h3 : bh < two32) (h2 : bl < two32) (h1 : ah < two32) (h0 : al < two32) (hr : 16 ≤ r.length) :
    stackRun Generated.u64_wrapping_mul vm
      = .ok ((u64of ah al * u64of bh bl) % two64 / two32 :: (u64of ah al * u64of bh bl) % two32 :: r) := by
  rw [stackRun_at hs]
  u64_exec Generated.u64_wrapping_mul
  simp (disch := u32b) only [u32_small]
  refine congrArg Except.ok (limbs_of_u64of r (mod_two32_lt _) ?_)
  rw [U64Mul.u64of_mul]
  generalize al * bl = p0
  generalize ah * bl = p1
  generalize al * bh = p2
  generalize ah * bh = p3
  simp only [u64of, two64, two32]
  omega

/-- `overflowing_mul`: the full 128-bit product `a · b` in four 32-bit limbs, most significant first. -/
theorem u64_overflowing_mul_exact (vm : Vm) (bh bl ah al : Nat) (r : List Nat) (hs : vm.stack = bh :: bl :: ah :: al :: r)
    (h3 : bh < two32) (h2 : bl < two32) (h1 : ah < two32) (h0 : al < two32) (hr : 16 ≤ r.length) :
    stackRun Generated.u64_overflowing_mul vm
      = .ok ((u64of ah al * u64of bh bl) / 79228162514264337593543950336
          :: (u64of ah al * u64of bh bl) / two64 % two32
          :: (u64of ah al * u64of bh bl) / two32 % two32
          :: (u64of ah al * u64of bh bl) % two32 :: r) := by
  rw [stackRun_at hs]
  u64_exec Generated.u64_overflowing_mul
  simp (disch := u32b) only [u32_small]
  refine congrArg Except.ok
    (limbs4_of_u64of r (mod_two32_lt _) (mod_two32_lt _) (mod_two32_lt _) ?_)
  rw [U64Mul.u64of_mul]
  generalize al * bl = p0
  generalize ah * bl = p1
  generalize al * bh = p2
  generalize ah * bh = p3
  simp only [u64of, two64, two32]
  omega

-- `h1` is not needed: nothing in `eqz, swap, eqz, and` checks a range
set_option linter.unusedVariables false in
/-- `eqz`: `[a_hi, a_lo] → [a = 0]`. -/
theorem u64_eqz_exact (vm : Vm) (ah al : Nat) (r : List Nat) (hs : vm.stack = ah :: al :: r)
    (h1 : ah < two32) (h0 : al < two32) (hr : 16 ≤ r.length) :
    stackRun Generated.u64_eqz vm = .ok ((if u64of ah al = 0 then 1 else 0) :: r) := by
  rw [stackRun_at hs]
  u64_exec Generated.u64_eqz
  simp (disch := first | assumption | decide) only [bit_eq_one, ← u64of_eq_iff (bh := 0) (bl := 0)]
  rfl

/-- What `min` and `max` do after the comparison: select one limb pair by two conditional swaps. -/
theorem select_pure {p : Prop} [Decidable p] {bh bl ah al : Nat} {r : List Nat} (hr : 16 ≤ r.length) :
    runPure [.movup4, .movup3, .dup2, .cswap, .drop, .movdn3, .cswap, .drop]
        ((if p then 1 else 0) :: bh :: bl :: ah :: al :: r)
      = .ok (if p then bh :: bl :: r else ah :: al :: r) := by
  by_cases h : p <;> simp (disch := omega) only [h, if_true, if_false, pure_exec]

/-- `min`: leaves the limbs of the smaller operand (`a` when `a ≤ b`, else `b`). -/
theorem u64_min_exact (vm : Vm) (bh bl ah al : Nat) (r : List Nat) (hs : vm.stack = bh :: bl :: ah :: al :: r)
    (h3 : bh < two32) (h2 : bl < two32) (h1 : ah < two32) (h0 : al < two32) (hr : 16 ≤ r.length) :
    stackRun Generated.u64_min vm
      = .ok (if u64of ah al ≤ u64of bh bl then ah :: al :: r else bh :: bl :: r) := by
  rw [stackRun_at hs, show Generated.u64_min = [.dup3, .dup3, .dup3, .dup3] ++ (Generated.u64_gt ++
    [.movup4, .movup3, .dup2, .cswap, .drop, .movdn3, .cswap, .drop]) from rfl, runPure_append]
  simp only [pure_exec]
  rw [runPure_append, u64_gt_pure h3 h2 h1 h0 (by simp only [List.length_cons]; omega), Except.bind_ok_step,
    select_pure hr]
  simp only [gt_iff_lt, ← Nat.not_le, ite_not]

/-- `max`: leaves the limbs of the larger operand (`a` when `a ≥ b`, else `b`). -/
theorem u64_max_exact (vm : Vm) (bh bl ah al : Nat) (r : List Nat) (hs : vm.stack = bh :: bl :: ah :: al :: r)
    (h3 : bh < two32) (h2 : bl < two32) (h1 : ah < two32) (h0 : al < two32) (hr : 16 ≤ r.length) :
    stackRun Generated.u64_max vm
      = .ok (if u64of ah al ≥ u64of bh bl then ah :: al :: r else bh :: bl :: r) := by
  rw [stackRun_at hs, show Generated.u64_max = [.dup3, .dup3, .dup3, .dup3] ++ (Generated.u64_lt ++
    [.movup4, .movup3, .dup2, .cswap, .drop, .movdn3, .cswap, .drop]) from rfl, runPure_append]
  simp only [pure_exec]
  rw [runPure_append, u64_lt_pure h3 h2 h1 h0 (by simp only [List.length_cons]; omega), Except.bind_ok_step,
    select_pure hr]
  simp only [ge_iff_le, ← Nat.not_lt, ite_not]

example : (stackRun Generated.u64_overflowing_mul
    { stack := [4294967295, 4294967295, 4294967295, 4294967295] ++ List.replicate 16 9 }).toOption
    = some ([4294967295, 4294967294, 0, 1] ++ List.replicate 16 9) := by decide

/-- `div`: whatever the host supplies as hint (any field elements, any tape length), a completed run
    has a non-zero divisor and leaves exactly `⌊a / b⌋`; the rest of the stack is untouched. -/
theorem u64_div_exact_for_every_hint (vm : Vm) (bh bl ah al : Nat) (r out : List Nat)
    (hs : vm.stack = bh :: bl :: ah :: al :: r)
    (h3 : bh < two32) (h2 : bl < two32) (h1 : ah < two32) (h0 : al < two32) (hr : 16 ≤ r.length)
    (h : stackRun Generated.u64_div vm = .ok out) :
    u64of bh bl ≠ 0 ∧
      out = (u64of ah al / u64of bh bl) / two32 :: (u64of ah al / u64of bh bl) % two32 :: r :=
  U64Div.u64_div_sound vm bh bl ah al r out hs h3 h2 h1 h0 hr h

/-- `mod`: a completed run leaves exactly `a mod b`, for every advice tape. -/
theorem u64_mod_exact_for_every_hint (vm : Vm) (bh bl ah al : Nat) (r out : List Nat)
    (hs : vm.stack = bh :: bl :: ah :: al :: r)
    (h3 : bh < two32) (h2 : bl < two32) (h1 : ah < two32) (h0 : al < two32) (hr : 16 ≤ r.length)
    (h : stackRun Generated.u64_mod vm = .ok out) :
    u64of bh bl ≠ 0 ∧
      out = (u64of ah al % u64of bh bl) / two32 :: (u64of ah al % u64of bh bl) % two32 :: r :=
  U64Div.u64_mod_sound vm bh bl ah al r out hs h3 h2 h1 h0 hr h

/-- `divmod`: a completed run leaves `[r_hi, r_lo, q_hi, q_lo]` with `q = ⌊a / b⌋`, `r = a mod b`,
    for every advice tape. -/
theorem u64_divmod_exact_for_every_hint (vm : Vm) (bh bl ah al : Nat) (r out : List Nat)
    (hs : vm.stack = bh :: bl :: ah :: al :: r)
    (h3 : bh < two32) (h2 : bl < two32) (h1 : ah < two32) (h0 : al < two32) (hr : 16 ≤ r.length)
    (h : stackRun Generated.u64_divmod vm = .ok out) :
    u64of bh bl ≠ 0 ∧
      out = (u64of ah al % u64of bh bl) / two32 :: (u64of ah al % u64of bh bl) % two32 ::
        (u64of ah al / u64of bh bl) / two32 :: (u64of ah al / u64of bh bl) % two32 :: r :=
  U64Div.u64_divmod_sound vm bh bl ah al r out hs h3 h2 h1 h0 hr h

-- the honest hint is accepted (the hypothesis of the three theorems is satisfiable)
example : (stackRun Generated.u64_divmod
    { stack := [0, 7, 0, 100] ++ List.replicate 16 9, adv := [14, 0, 2, 0] }).toOption
    = some ([0, 2, 0, 14] ++ List.replicate 16 9) := by decide
-- and a forged one is refused
example : (stackRun Generated.u64_divmod
    { stack := [0, 7, 0, 100] ++ List.replicate 16 9, adv := [13, 0, 9, 0] }).toOption = none := by decide

/-! u256 operands are eight 32-bit limbs, most significant first. -/

/-- `u256::add_unsafe`: `[b, a] → [c]` with `c = (a + b) mod 2^256`, for all limbs < 2^32; the rest of
    the stack is untouched. -/
theorem u256_add_exact (vm : Vm) (y0 y1 y2 y3 y4 y5 y6 y7 x0 x1 x2 x3 x4 x5 x6 x7 r0 r1 r2 : Nat) (r : List Nat)
    (hs : vm.stack = y0 :: y1 :: y2 :: y3 :: y4 :: y5 :: y6 :: y7 :: x0 :: x1 :: x2 :: x3 :: x4 :: x5 :: x6 :: x7 :: r0 :: r1 :: r2 :: r)
    (hr : 13 ≤ r.length) (hx0 : x0 < 4294967296) (hy0 : y0 < 4294967296) (hx1 : x1 < 4294967296) (hy1 : y1 < 4294967296) (hx2 : x2 < 4294967296) (hy2 : y2 < 4294967296) (hx3 : x3 < 4294967296) (hy3 : y3 < 4294967296) (hx4 : x4 < 4294967296) (hy4 : y4 < 4294967296) (hx5 : x5 < 4294967296) (hy5 : y5 < 4294967296) (hx6 : x6 < 4294967296) (hy6 : y6 < 4294967296) (hx7 : x7 < 4294967296) (hy7 : y7 < 4294967296) :
    stackRun Generated.u256_add_unsafe vm = .ok ((U256.u256of x0 x1 x2 x3 x4 x5 x6 x7 + U256.u256of y0 y1 y2 y3 y4 y5 y6 y7) / 26959946667150639794667015087019630673637144422540572481103610249216 % 4294967296 :: (U256.u256of x0 x1 x2 x3 x4 x5 x6 x7 + U256.u256of y0 y1 y2 y3 y4 y5 y6 y7) / 6277101735386680763835789423207666416102355444464034512896 % 4294967296 :: (U256.u256of x0 x1 x2 x3 x4 x5 x6 x7 + U256.u256of y0 y1 y2 y3 y4 y5 y6 y7) / 1461501637330902918203684832716283019655932542976 % 4294967296 :: (U256.u256of x0 x1 x2 x3 x4 x5 x6 x7 + U256.u256of y0 y1 y2 y3 y4 y5 y6 y7) / 340282366920938463463374607431768211456 % 4294967296 :: (U256.u256of x0 x1 x2 x3 x4 x5 x6 x7 + U256.u256of y0 y1 y2 y3 y4 y5 y6 y7) / 79228162514264337593543950336 % 4294967296 :: (U256.u256of x0 x1 x2 x3 x4 x5 x6 x7 + U256.u256of y0 y1 y2 y3 y4 y5 y6 y7) / 18446744073709551616 % 4294967296 :: (U256.u256of x0 x1 x2 x3 x4 x5 x6 x7 + U256.u256of y0 y1 y2 y3 y4 y5 y6 y7) / 4294967296 % 4294967296 :: (U256.u256of x0 x1 x2 x3 x4 x5 x6 x7 + U256.u256of y0 y1 y2 y3 y4 y5 y6 y7) / 1 % 4294967296 :: r0 :: r1 :: r2 :: r) := by
  rw [stackRun_at hs]
  -- the statement spells 2^32 as a numeral; the rules and their dischargers know it as `two32`
  simp only [← two32.eq_1] at *
  simp (disch := binb) only [Generated.u256_add_unsafe, pure_exec, *]
  -- the upper four limbs are added as `c + y + x`
  simp (disch := u32b) only [u32_small, Nat.add_right_comm _ y0 x0, Nat.add_right_comm _ y1 x1,
    Nat.add_right_comm _ y2 x2, Nat.add_right_comm _ y3 x3]
  have h := congrArg (fun p => p.1.reverse)
    (addCarry_eq 0 [x7, x6, x5, x4, x3, x2, x1, x0] [y7, y6, y5, y4, y3, y2, y1, y0] rfl)
  simp only [addCarry, digits, List.length_cons, List.length_nil, Nat.zero_add, Nat.add_zero,
    Nat.div_div_eq_div_mul, List.reverse_cons, List.reverse_nil, List.nil_append, List.cons_append,
    two32, Nat.reduceMul] at h
  rw [← U256.u256of_eq_limbs, ← U256.u256of_eq_limbs] at h
  simp only [two32, Nat.div_one]
  exact congrArg (fun l => Except.ok (l ++ r0 :: r1 :: r2 :: r)) h

/-- `u256::sub_unsafe`: `[b, a] → [c]` with `c = (a − b) mod 2^256`, for all limbs < 2^32 (every
    borrow pattern, a subtrahend limb 2^32−1 with an incoming borrow included). -/
theorem u256_sub_exact (vm : Vm) (y0 y1 y2 y3 y4 y5 y6 y7 x0 x1 x2 x3 x4 x5 x6 x7 r0 r1 r2 : Nat) (r : List Nat)
    (hs : vm.stack = y0 :: y1 :: y2 :: y3 :: y4 :: y5 :: y6 :: y7 :: x0 :: x1 :: x2 :: x3 :: x4 :: x5 :: x6 :: x7 :: r0 :: r1 :: r2 :: r)
    (hr : 13 ≤ r.length) (hx0 : x0 < 4294967296) (hy0 : y0 < 4294967296) (hx1 : x1 < 4294967296) (hy1 : y1 < 4294967296) (hx2 : x2 < 4294967296) (hy2 : y2 < 4294967296) (hx3 : x3 < 4294967296) (hy3 : y3 < 4294967296) (hx4 : x4 < 4294967296) (hy4 : y4 < 4294967296) (hx5 : x5 < 4294967296) (hy5 : y5 < 4294967296) (hx6 : x6 < 4294967296) (hy6 : y6 < 4294967296) (hx7 : x7 < 4294967296) (hy7 : y7 < 4294967296) :
    stackRun Generated.u256_sub_unsafe vm = .ok (((U256.u256of x0 x1 x2 x3 x4 x5 x6 x7 + 115792089237316195423570985008687907853269984665640564039457584007913129639936 - U256.u256of y0 y1 y2 y3 y4 y5 y6 y7) % 115792089237316195423570985008687907853269984665640564039457584007913129639936) / 26959946667150639794667015087019630673637144422540572481103610249216 % 4294967296 :: ((U256.u256of x0 x1 x2 x3 x4 x5 x6 x7 + 115792089237316195423570985008687907853269984665640564039457584007913129639936 - U256.u256of y0 y1 y2 y3 y4 y5 y6 y7) % 115792089237316195423570985008687907853269984665640564039457584007913129639936) / 6277101735386680763835789423207666416102355444464034512896 % 4294967296 :: ((U256.u256of x0 x1 x2 x3 x4 x5 x6 x7 + 115792089237316195423570985008687907853269984665640564039457584007913129639936 - U256.u256of y0 y1 y2 y3 y4 y5 y6 y7) % 115792089237316195423570985008687907853269984665640564039457584007913129639936) / 1461501637330902918203684832716283019655932542976 % 4294967296 :: ((U256.u256of x0 x1 x2 x3 x4 x5 x6 x7 + 115792089237316195423570985008687907853269984665640564039457584007913129639936 - U256.u256of y0 y1 y2 y3 y4 y5 y6 y7) % 115792089237316195423570985008687907853269984665640564039457584007913129639936) / 340282366920938463463374607431768211456 % 4294967296 :: ((U256.u256of x0 x1 x2 x3 x4 x5 x6 x7 + 115792089237316195423570985008687907853269984665640564039457584007913129639936 - U256.u256of y0 y1 y2 y3 y4 y5 y6 y7) % 115792089237316195423570985008687907853269984665640564039457584007913129639936) / 79228162514264337593543950336 % 4294967296 :: ((U256.u256of x0 x1 x2 x3 x4 x5 x6 x7 + 115792089237316195423570985008687907853269984665640564039457584007913129639936 - U256.u256of y0 y1 y2 y3 y4 y5 y6 y7) % 115792089237316195423570985008687907853269984665640564039457584007913129639936) / 18446744073709551616 % 4294967296 :: ((U256.u256of x0 x1 x2 x3 x4 x5 x6 x7 + 115792089237316195423570985008687907853269984665640564039457584007913129639936 - U256.u256of y0 y1 y2 y3 y4 y5 y6 y7) % 115792089237316195423570985008687907853269984665640564039457584007913129639936) / 4294967296 % 4294967296 :: ((U256.u256of x0 x1 x2 x3 x4 x5 x6 x7 + 115792089237316195423570985008687907853269984665640564039457584007913129639936 - U256.u256of y0 y1 y2 y3 y4 y5 y6 y7) % 115792089237316195423570985008687907853269984665640564039457584007913129639936) / 1 % 4294967296 :: r0 :: r1 :: r2 :: r) := by
  rw [stackRun_at hs]
  simp only [← two32.eq_1] at *
  simp (disch := binb) only [Generated.u256_sub_unsafe, pure_exec, *]
  -- with this discharger the u32 rules fire on the least significant limb only
  simp (disch := first | assumption | exact Nat.sub_le 1 _) only [u32_sub_lo, u32_sub_borrow_div,
    U256.sub_limb_lo, U256.sub_limb_lo', U256.sub_limb_borrow]
  have h := congrArg (fun p => p.1.reverse)
    (subBorrow_eq 0 [x7, x6, x5, x4, x3, x2, x1, x0] [y7, y6, y5, y4, y3, y2, y1, y0] rfl (by decide)
      (by simp only [List.forall_mem_cons, List.not_mem_nil, false_imp_iff, implies_true, and_true, *])
      (by simp only [List.forall_mem_cons, List.not_mem_nil, false_imp_iff, implies_true, and_true, *]))
  simp only [subBorrow, digits, List.length_cons, List.length_nil, Nat.zero_add, Nat.sub_zero,
    Nat.div_div_eq_div_mul, List.reverse_cons, List.reverse_nil, List.nil_append, List.cons_append,
    two32, Nat.reduceMul, Nat.reduceAdd, Nat.reducePow] at h
  -- `u256of` is folded only here: inside the simp call above the kernel unfolds its products with 2^224
  rw [← U256.u256of_eq_limbs, ← U256.u256of_eq_limbs] at h
  simp only [two32, Nat.div_one]
  exact congrArg (fun l => Except.ok (l ++ r0 :: r1 :: r2 :: r)) h

-- Non-vacuity: the hypotheses are met by a concrete state and the procedure really runs.
example : (stackRun Generated.u64_overflowing_add
    { stack := [4294967295, 4294967295, 0, 1] ++ List.replicate 16 9 }).toOption
    = some ([1, 0, 0] ++ List.replicate 16 9) := by decide

end Miden.C16
