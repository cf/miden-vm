/-
  C04 (continued) — soundness of the stack AIR for every operation that only rearranges or
  duplicates stack items: if all stack transition constraints vanish on a row pair carrying the
  operation's opcode, every one of the 16 next-row stack cells equals the cell of the current row the
  operation is defined to put there (and, for DUPn, depth and overflow address follow the right
  shift).  Same constraint system as `Props/C04.lean`.
-/
import Miden.Lemmas.AirSpec
namespace Miden.C04
open Miden.Air
variable {F : Type} [Field F]

/-- MOVUPn: item `n` comes to the top, items `0..n-1` move one slot down. -/
def permMovup (n i : Nat) : Nat := if i = 0 then n else if i ≤ n then i - 1 else i
/-- MOVDNn: the top item goes to position `n`, items `1..n` move one slot up. -/
def permMovdn (n i : Nat) : Nat := if i = n then 0 else if i < n then i + 1 else i
/-- Exchange of the `len` items starting at `a` with the `len` items starting at `b`. -/
def permSwap (a b len i : Nat) : Nat :=
  if a ≤ i ∧ i < a + len then i - a + b else if b ≤ i ∧ i < b + len then i - b + a else i

/-- A permutation of the sixteen cells: one cell comes from the operation's own constraint (`h0`),
    all others from the general constraints. -/
theorem cells_of_moves {cur nxt : Row F} (op : Op) (hop : cur.opcode = op.code) (h : Holds cur nxt)
    (p : Nat → Nat) (e : Nat) (h0 : nxt.st e = cur.st (p e))
    (hp : ∀ i < 16, i ≠ e → ∃ m, moveAt op i = some m ∧ m.src i = p i := by decide)
    (hc : op.isControl = false := by rfl) : ∀ i, i < 16 → nxt.st i = cur.st (p i) := fun i hi => by
  by_cases hie : i = e
  · exact hie ▸ h0
  · exact (h.cells op hop p (· ≠ e) hp hc) i hi hie

theorem air_sound_movup3 (cur nxt : Row F) (hop : cur.opcode = 12) (h : Holds cur nxt) :
    ∀ i, i < 16 → nxt.st i = cur.st (permMovup 3 i) :=
  cells_of_moves .movup3 hop h (permMovup 3) 0 (h.demands .movup3 hop).manip

theorem air_sound_movdn3 (cur nxt : Row F) (hop : cur.opcode = 13) (h : Holds cur nxt) :
    ∀ i, i < 16 → nxt.st i = cur.st (permMovdn 3 i) :=
  cells_of_moves .movdn3 hop h (permMovdn 3) 3 (h.demands .movdn3 hop).manip.symm

theorem air_sound_movup4 (cur nxt : Row F) (hop : cur.opcode = 16) (h : Holds cur nxt) :
    ∀ i, i < 16 → nxt.st i = cur.st (permMovup 4 i) :=
  cells_of_moves .movup4 hop h (permMovup 4) 0 (h.demands .movup4 hop).manip

theorem air_sound_movdn4 (cur nxt : Row F) (hop : cur.opcode = 17) (h : Holds cur nxt) :
    ∀ i, i < 16 → nxt.st i = cur.st (permMovdn 4 i) :=
  cells_of_moves .movdn4 hop h (permMovdn 4) 4 (h.demands .movdn4 hop).manip.symm

theorem air_sound_movup5 (cur nxt : Row F) (hop : cur.opcode = 18) (h : Holds cur nxt) :
    ∀ i, i < 16 → nxt.st i = cur.st (permMovup 5 i) :=
  cells_of_moves .movup5 hop h (permMovup 5) 0 (h.demands .movup5 hop).manip

theorem air_sound_movdn5 (cur nxt : Row F) (hop : cur.opcode = 19) (h : Holds cur nxt) :
    ∀ i, i < 16 → nxt.st i = cur.st (permMovdn 5 i) :=
  cells_of_moves .movdn5 hop h (permMovdn 5) 5 (h.demands .movdn5 hop).manip.symm

theorem air_sound_movup6 (cur nxt : Row F) (hop : cur.opcode = 20) (h : Holds cur nxt) :
    ∀ i, i < 16 → nxt.st i = cur.st (permMovup 6 i) :=
  cells_of_moves .movup6 hop h (permMovup 6) 0 (h.demands .movup6 hop).manip

theorem air_sound_movdn6 (cur nxt : Row F) (hop : cur.opcode = 21) (h : Holds cur nxt) :
    ∀ i, i < 16 → nxt.st i = cur.st (permMovdn 6 i) :=
  cells_of_moves .movdn6 hop h (permMovdn 6) 6 (h.demands .movdn6 hop).manip.symm

theorem air_sound_movup7 (cur nxt : Row F) (hop : cur.opcode = 22) (h : Holds cur nxt) :
    ∀ i, i < 16 → nxt.st i = cur.st (permMovup 7 i) :=
  cells_of_moves .movup7 hop h (permMovup 7) 0 (h.demands .movup7 hop).manip

theorem air_sound_movdn7 (cur nxt : Row F) (hop : cur.opcode = 23) (h : Holds cur nxt) :
    ∀ i, i < 16 → nxt.st i = cur.st (permMovdn 7 i) :=
  cells_of_moves .movdn7 hop h (permMovdn 7) 7 (h.demands .movdn7 hop).manip.symm

theorem air_sound_movup8 (cur nxt : Row F) (hop : cur.opcode = 26) (h : Holds cur nxt) :
    ∀ i, i < 16 → nxt.st i = cur.st (permMovup 8 i) :=
  cells_of_moves .movup8 hop h (permMovup 8) 0 (h.demands .movup8 hop).manip

theorem air_sound_movdn8 (cur nxt : Row F) (hop : cur.opcode = 27) (h : Holds cur nxt) :
    ∀ i, i < 16 → nxt.st i = cur.st (permMovdn 8 i) :=
  cells_of_moves .movdn8 hop h (permMovdn 8) 8 (h.demands .movdn8 hop).manip.symm

/-- Two runs of `len` cells, at `0` and at `b`, change places and every other cell stays (`hrest` in
    the form `permSwap 0 b len` unfolds to). -/
theorem swap_cells {cur nxt : Row F} {b len : Nat} (hlo : ∀ i < len, nxt.st i = cur.st (i + b))
    (hhi : ∀ i < len, nxt.st (i + b) = cur.st i)
    (hrest : ∀ i < 16, ¬ (0 ≤ i ∧ i < 0 + len) ∧ ¬ (b ≤ i ∧ i < b + len) → nxt.st i = cur.st i) :
    ∀ i, i < 16 → nxt.st i = cur.st (permSwap 0 b len i) := by
  intro i hi
  unfold permSwap
  split_ifs with h1 h2
  · rw [Nat.sub_zero]
    exact hlo i (by omega)
  · obtain ⟨j, rfl⟩ : ∃ j, i = j + b := ⟨i - b, by omega⟩
    rw [Nat.add_sub_cancel, Nat.add_zero]
    exact hhi j (by omega)
  · exact hrest i hi ⟨h1, h2⟩

theorem air_sound_swapw (cur nxt : Row F) (hop : cur.opcode = 24) (h : Holds cur nxt) :
    ∀ i, i < 16 → nxt.st i = cur.st (permSwap 0 4 4 i) := by
  obtain ⟨m1, m2⟩ := (h.demands .swapw hop).manip
  exact swap_cells (fun i hi => (m2 i hi).symm) m1 (h.cells .swapw hop id _)

theorem air_sound_swapw2 (cur nxt : Row F) (hop : cur.opcode = 28) (h : Holds cur nxt) :
    ∀ i, i < 16 → nxt.st i = cur.st (permSwap 0 8 4 i) := by
  obtain ⟨m1, m2⟩ := (h.demands .swapw2 hop).manip
  exact swap_cells (fun i hi => (m2 i hi).symm) m1 (h.cells .swapw2 hop id _)

theorem air_sound_swapw3 (cur nxt : Row F) (hop : cur.opcode = 29) (h : Holds cur nxt) :
    ∀ i, i < 16 → nxt.st i = cur.st (permSwap 0 12 4 i) := by
  obtain ⟨m1, m2⟩ := (h.demands .swapw3 hop).manip
  exact swap_cells (fun i hi => (m2 i hi).symm) m1 (h.cells .swapw3 hop id _)

theorem air_sound_swapdw (cur nxt : Row F) (hop : cur.opcode = 30) (h : Holds cur nxt) :
    ∀ i, i < 16 → nxt.st i = cur.st (permSwap 0 8 8 i) := by
  obtain ⟨m1, m2, m3, m4⟩ := (h.demands .swapdw hop).manip
  refine swap_cells (len := 8) (fun i hi => ?_) (fun i hi => ?_) (fun i hi hn => absurd hi (by omega))
  · rcases Nat.lt_or_ge i 4 with h4 | h4
    · exact (m2 i h4).symm
    · obtain ⟨j, rfl⟩ := Nat.exists_eq_add_of_le' h4
      exact (show j + 4 + 8 = j + 12 by omega) ▸ (m4 j (by omega)).symm
  · rcases Nat.lt_or_ge i 4 with h4 | h4
    · exact m1 i h4
    · obtain ⟨j, rfl⟩ := Nat.exists_eq_add_of_le' h4
      exact (show j + 4 + 8 = j + 12 by omega) ▸ (m3 j (by omega)).symm

theorem air_sound_noop (cur nxt : Row F) (hop : cur.opcode = 0) (h : Holds cur nxt) :
    ∀ i, i < 16 → nxt.st i = cur.st (i) :=
  fun i hi => (h.copyFrom .noop hop 0) i (Nat.zero_le i) hi

theorem air_sound_dup0 (cur nxt : Row F) (hop : cur.opcode = 49) (h : Holds cur nxt) :
    nxt.st 0 = cur.st 0 ∧ RightFrom cur nxt 0 ∧ nxt.b0 = cur.b0 + 1 ∧ nxt.b1 = cur.clk :=
  ⟨(h.demands .dup0 hop).manip, h.push .dup0 hop⟩

theorem air_sound_dup2 (cur nxt : Row F) (hop : cur.opcode = 51) (h : Holds cur nxt) :
    nxt.st 0 = cur.st 2 ∧ RightFrom cur nxt 0 ∧ nxt.b0 = cur.b0 + 1 ∧ nxt.b1 = cur.clk :=
  ⟨(h.demands .dup2 hop).manip, h.push .dup2 hop⟩

theorem air_sound_dup3 (cur nxt : Row F) (hop : cur.opcode = 52) (h : Holds cur nxt) :
    nxt.st 0 = cur.st 3 ∧ RightFrom cur nxt 0 ∧ nxt.b0 = cur.b0 + 1 ∧ nxt.b1 = cur.clk :=
  ⟨(h.demands .dup3 hop).manip, h.push .dup3 hop⟩

theorem air_sound_dup4 (cur nxt : Row F) (hop : cur.opcode = 53) (h : Holds cur nxt) :
    nxt.st 0 = cur.st 4 ∧ RightFrom cur nxt 0 ∧ nxt.b0 = cur.b0 + 1 ∧ nxt.b1 = cur.clk :=
  ⟨(h.demands .dup4 hop).manip, h.push .dup4 hop⟩

theorem air_sound_dup5 (cur nxt : Row F) (hop : cur.opcode = 54) (h : Holds cur nxt) :
    nxt.st 0 = cur.st 5 ∧ RightFrom cur nxt 0 ∧ nxt.b0 = cur.b0 + 1 ∧ nxt.b1 = cur.clk :=
  ⟨(h.demands .dup5 hop).manip, h.push .dup5 hop⟩

theorem air_sound_dup6 (cur nxt : Row F) (hop : cur.opcode = 55) (h : Holds cur nxt) :
    nxt.st 0 = cur.st 6 ∧ RightFrom cur nxt 0 ∧ nxt.b0 = cur.b0 + 1 ∧ nxt.b1 = cur.clk :=
  ⟨(h.demands .dup6 hop).manip, h.push .dup6 hop⟩

theorem air_sound_dup7 (cur nxt : Row F) (hop : cur.opcode = 56) (h : Holds cur nxt) :
    nxt.st 0 = cur.st 7 ∧ RightFrom cur nxt 0 ∧ nxt.b0 = cur.b0 + 1 ∧ nxt.b1 = cur.clk :=
  ⟨(h.demands .dup7 hop).manip, h.push .dup7 hop⟩

theorem air_sound_dup9 (cur nxt : Row F) (hop : cur.opcode = 57) (h : Holds cur nxt) :
    nxt.st 0 = cur.st 9 ∧ RightFrom cur nxt 0 ∧ nxt.b0 = cur.b0 + 1 ∧ nxt.b1 = cur.clk :=
  ⟨(h.demands .dup9 hop).manip, h.push .dup9 hop⟩

theorem air_sound_dup11 (cur nxt : Row F) (hop : cur.opcode = 58) (h : Holds cur nxt) :
    nxt.st 0 = cur.st 11 ∧ RightFrom cur nxt 0 ∧ nxt.b0 = cur.b0 + 1 ∧ nxt.b1 = cur.clk :=
  ⟨(h.demands .dup11 hop).manip, h.push .dup11 hop⟩

theorem air_sound_dup13 (cur nxt : Row F) (hop : cur.opcode = 59) (h : Holds cur nxt) :
    nxt.st 0 = cur.st 13 ∧ RightFrom cur nxt 0 ∧ nxt.b0 = cur.b0 + 1 ∧ nxt.b1 = cur.clk :=
  ⟨(h.demands .dup13 hop).manip, h.push .dup13 hop⟩

theorem air_sound_dup15 (cur nxt : Row F) (hop : cur.opcode = 60) (h : Holds cur nxt) :
    nxt.st 0 = cur.st 15 ∧ RightFrom cur nxt 0 ∧ nxt.b0 = cur.b0 + 1 ∧ nxt.b1 = cur.clk :=
  ⟨(h.demands .dup15 hop).manip, h.push .dup15 hop⟩

/-- Non-vacuity of the index maps. -/
example : (List.range 16).map (permMovup 3) = [3, 0, 1, 2, 4, 5, 6, 7, 8, 9, 10, 11, 12, 13, 14, 15] := by decide
example : (List.range 16).map (permMovdn 3) = [1, 2, 3, 0, 4, 5, 6, 7, 8, 9, 10, 11, 12, 13, 14, 15] := by decide
example : (List.range 16).map (permSwap 0 12 4) = [12, 13, 14, 15, 4, 5, 6, 7, 8, 9, 10, 11, 0, 1, 2, 3] := by decide

end Miden.C04
