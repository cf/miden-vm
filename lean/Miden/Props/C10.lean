/-
  C10 — serialised code and data round-trip.

  The instruction (de)serialisation tables are regenerated from the *source text* of
  `assembly/src/ast/nodes/serde/{mod,serialization,deserialization}.rs` on every run
  (`translators/serde_table.py`); the theorems below are re-checked against them.
  Byte-level round trips of whole ASTs, libraries, kernels, program info, stack inputs/outputs
  and proofs are run on the real code by the correspondence harness.
-/
import Miden.Generated.SerdeTable
import Miden.Model.Serde
import Miden.Lemmas.Distinct
namespace Miden.C10
open Miden.Generated

/-- The decoder's table is the encoder's, row by row, with variant and opcode exchanged. -/
theorem read_eq_write :
    serdeReadTable = serdeWriteTable.map (fun w => (w.2.1, w.1, w.2.2)) := by
  decide +kernel

/-- Every instruction variant is written with an opcode that the decoder maps back to the same
    variant, reading exactly the payload kinds that were written, in the same order. -/
theorem table_consistent :
    ∀ w ∈ serdeWriteTable, (w.2.1, w.1, w.2.2) ∈ serdeReadTable := by
  intro w hw
  rw [read_eq_write]
  exact List.mem_map_of_mem hw

/-- Conversely the decoder produces no variant the encoder would write differently. -/
theorem table_consistent_converse :
    ∀ r ∈ serdeReadTable, (r.2.1, r.1, r.2.2) ∈ serdeWriteTable := by
  intro r hr
  rw [read_eq_write] at hr
  obtain ⟨w, hw, rfl⟩ := List.mem_map.mp hr
  exact hw

/-- Opcode bytes are pairwise distinct and fit in a byte; every written opcode has a byte. -/
theorem opcode_bytes_distinct :
    (serdeOpcodeBytes.map (·.2)).Nodup ∧ (serdeOpcodeBytes.map (·.1)).Nodup ∧
    (serdeOpcodeBytes.all (fun p => p.2 < 256) = true) ∧
    (∀ w ∈ serdeWriteTable, w.2.1 ∈ serdeOpcodeBytes.map (·.1)) := by
  have names := distinctWith_spec (l := serdeOpcodeBytes.map (·.1))
    (ys := serdeWriteTable.map (·.2.1)) (by decide +kernel)
  exact ⟨(distinctWith_spec (ys := []) (by decide +kernel)).1, names.1, by decide +kernel,
    fun w hw => names.2 _ (List.mem_map_of_mem hw)⟩

/-- No two instruction variants share an opcode. -/
theorem write_opcodes_distinct : (serdeWriteTable.map (·.2.1)).Nodup ∧ (serdeWriteTable.map (·.1)).Nodup :=
  ⟨(distinctWith_spec (ys := []) (by decide +kernel)).1,
    (distinctWith_spec (ys := []) (by decide +kernel)).1⟩

/-- Primitive payload encodings round-trip for every value in range. -/
theorem u16_roundtrip (v : Nat) (h : v < 65536) (rest : List Nat) :
    Serde.readU16 (Serde.writeU16 v ++ rest) = some (v, rest) := Serde.readU16_writeU16 v h rest

theorem u32_roundtrip (v : Nat) (h : v < 4294967296) (rest : List Nat) :
    Serde.readU32 (Serde.writeU32 v ++ rest) = some (v, rest) := Serde.readU32_writeU32 v h rest

theorem u64_roundtrip (v : Nat) (h : v < 18446744073709551616) (rest : List Nat) :
    Serde.readU64 (Serde.writeU64 v ++ rest) = some (v, rest) := Serde.readU64_writeU64 v h rest

/-- Stack inputs: length-prefixed canonical field elements; decode ∘ encode = id. -/
theorem stack_inputs_roundtrip (vals : List Nat) (hc : ∀ v ∈ vals, v < P) (hl : vals.length < 4294967296) :
    Serde.decodeStackInputs (Serde.encodeStackInputs vals) = some vals :=
  Serde.decodeStackInputs_encode vals hc hl

example : Serde.decodeStackInputs (Serde.encodeStackInputs [1, 2, 18446744069414584320]) = some [1, 2, 18446744069414584320] := by
  decide

end Miden.C10
