/-
  C15 — the cycle limit is enforced exactly.
-/
import Miden.Lemmas.LimitMono
import Miden.Model.Options
namespace Miden.C15
open Miden.Vm

/-- A row is refused exactly when it would be row number `max + 1`; the error names the limit. -/
theorem tick_refuses_exactly (env : Env) (vm : Vm) (row : Op) :
    ((∃ e, vm.tick env row = .error e) ↔ env.maxCycles < vm.clk + 1) ∧
    (∀ e, vm.tick env row = .error e → e = .cycleLimit env.maxCycles) :=
  ⟨⟨fun ⟨_, h⟩ => (tick_err h).2, fun h => ⟨.cycleLimit env.maxCycles, by simp [tick, h]⟩⟩,
    fun _ h => (tick_err h).1⟩

/-- Whatever block is executed, from whatever state: if execution succeeds, the clock never exceeded
    the limit and at least one cycle was spent. -/
theorem exec_within_limit (env : Env) (fuel : Nat) (b : Block) (vm vm' : Vm)
    (h : exec env fuel b vm = .ok vm') : vm'.clk ≤ env.maxCycles ∧ vm.clk < vm'.clk :=
  let p := exec_prog h; ⟨p.2.1, p.2.2⟩

/-- One cycle per trace row: the number of rows appended equals the clock advance. -/
theorem clock_counts_rows (env : Env) (fuel : Nat) (b : Block) (vm vm' : Vm)
    (h : exec env fuel b vm = .ok vm') :
    ∃ rows : List Op, vm'.trace = rows ++ vm.trace ∧ vm'.clk = vm.clk + rows.length :=
  (exec_prog h).1

/-- A program needing more than `m` cycles cannot succeed under limit `m`. -/
theorem over_limit_never_succeeds (env : Env) (fuel : Nat) (b : Block) (vm vm' : Vm) (n : Nat)
    (hn : env.maxCycles < n) (h : exec env fuel b vm = .ok vm') : vm'.clk ≠ n := by
  have := (exec_within_limit env fuel b vm vm' h).1
  omega

/-- **The limit is enforced exactly**: if a program completes from `vm` under some limit with final
    clock `c`, then under ANY limit `m` it completes if and only if `c ≤ m`, and when it does the result
    is the very same state - for every program (all block kinds, calls, syscalls, dyn), state and fuel. -/
theorem limit_exact (env : Env) (fuel : Nat) (b : Block) (vm vm' : Vm) (m : Nat)
    (h : exec env fuel b vm = .ok vm') :
    ((∃ v, exec (env.withMax m) fuel b vm = .ok v) ↔ vm'.clk ≤ m) ∧
    (∀ v, exec (env.withMax m) fuel b vm = .ok v → v = vm') := by
  have key : ∀ v, exec (env.withMax m) fuel b vm = .ok v → v = vm' ∧ vm'.clk ≤ m := by
    intro v hv
    have hvm : v.clk ≤ m := (exec_prog hv).2.1
    -- both runs are reproduced under the larger of the two limits, so they end in the same state
    have h1 := exec_limit_mono (max m env.maxCycles) h
      (Nat.le_trans (exec_prog h).2.1 (Nat.le_max_right _ _))
    have h2 := exec_limit_mono (env := env.withMax m) (max m env.maxCycles) hv
      (Nat.le_trans hvm (Nat.le_max_left _ _))
    have e : v = vm' := Except.ok.inj (h2.symm.trans h1)
    exact ⟨e, e ▸ hvm⟩
  refine ⟨⟨fun ⟨v, hv⟩ => (key v hv).2, fun hc => ⟨vm', exec_limit_mono m h hc⟩⟩, fun v hv => (key v hv).1⟩

/-- Option sets are refused exactly when the maximum is below the minimum trace length (64) or
    below the expected number of cycles. -/
theorem options_refused_iff (m : Option Nat) (e : Nat) :
    execOptionsNew m e = none ↔ (m.getD U32_MAX < 64 ∨ m.getD U32_MAX < e) := by
  unfold execOptionsNew MIN_TRACE_LEN
  simp only
  by_cases h1 : m.getD U32_MAX < 64
  · simp [h1]
  · by_cases h2 : m.getD U32_MAX < e <;> simp [h1, h2]

/-- Accepted option sets keep the requested maximum. -/
theorem options_accept (m : Option Nat) (e : Nat) (h1 : 64 ≤ m.getD U32_MAX)
    (h2 : e ≤ m.getD U32_MAX) : ∃ e', execOptionsNew m e = some (m.getD U32_MAX, e') ∧ 64 ≤ e' := by
  unfold execOptionsNew MIN_TRACE_LEN
  rw [if_neg (Nat.not_lt.mpr h1), if_neg (Nat.not_lt.mpr h2)]
  exact ⟨_, rfl, Nat.le_max_right ..⟩

-- `limit_exact` on a concrete program: its 8 rows fit under limit 8, not under 7
example : ((exec { maxCycles := 8 } 10 (.join (.span [.pad]) (.span [.incr])) { stack := List.replicate 16 0 }).toOption.map (·.clk),
    (exec { maxCycles := 7 } 10 (.join (.span [.pad]) (.span [.incr])) { stack := List.replicate 16 0 }).toOption.map (·.clk))
    = (some 8, none) := by decide

-- Non-vacuity: a concrete state at the limit is refused, one below it is accepted.
example : (∃ e, ({ stack := [], clk := 64 } : Vm).tick { maxCycles := 64 } .noop = .error e) := by
  exact ⟨_, rfl⟩
example : (∃ v, ({ stack := [], clk := 63 } : Vm).tick { maxCycles := 64 } .noop = .ok v) := by
  exact ⟨_, rfl⟩

end Miden.C15
