/-
  C04 (continued) — soundness of the stack AIR for the remaining u32 operations and the operations
  whose pushed value is not a stack-AIR matter (PUSH, ADVPOP: only the shift is enforced).
  The u32 statements are the field-level contract: the helper registers `hp 0..3` are the 16-bit
  limbs (range-checked through the range checker, C03/C12) whose aggregation the operands / results
  must equal; the integer reading of these equations is the range-check contract named in DESIGN.md.
-/
import Miden.Lemmas.AirSpec
namespace Miden.C04
open Miden.Air
variable {F : Type} [Field F]

/-- U32ADD3 (76): `a + b + c` equals the 48-bit aggregation of the limbs; low 32 bits and carry are
    the results; the rest shifts left by one. -/
theorem air_sound_u32add3 (cur nxt : Row F) (hop : cur.opcode = 76) (h : Holds cur nxt) :
    cur.st 0 + cur.st 1 + cur.st 2 = 4294967296 * cur.hp 2 + (65536 * cur.hp 1 + cur.hp 0) ∧
    nxt.st 1 = 65536 * cur.hp 1 + cur.hp 0 ∧ nxt.st 0 = 65536 * cur.hp 3 + cur.hp 2 ∧
    LeftFrom cur nxt 3 := by
  obtain ⟨u1, u2, u3⟩ := (h.demands .u32add3 hop).u32
  exact ⟨by rw [u3, v48_eq], by rw [u1, vLo_eq], by rw [u2, vHi_eq], h.leftFrom .u32add3 hop 3⟩

/-- U32SUB (66): `b = a + diff - 2^32 * borrow` with a binary borrow; the difference is the 32-bit
    aggregation of the limbs. -/
theorem air_sound_u32sub (cur nxt : Row F) (hop : cur.opcode = 66) (h : Holds cur nxt) :
    cur.st 1 = cur.st 0 + nxt.st 1 - 4294967296 * nxt.st 0 ∧ (nxt.st 0 = 0 ∨ nxt.st 0 = 1) ∧
    nxt.st 1 = 65536 * cur.hp 1 + cur.hp 0 ∧ CopyFrom cur nxt 2 := by
  obtain ⟨u1, u2, u3⟩ := (h.demands .u32sub hop).u32
  exact ⟨by simpa [two32] using u2, binary_of_sq u3, by rw [u1, vLo_eq], h.copyFrom .u32sub hop 2⟩

/-- U32MUL (68): the product equals the 64-bit aggregation of the four limbs; the two 32-bit halves
    are the results. -/
theorem air_sound_u32mul (cur nxt : Row F) (hop : cur.opcode = 68) (h : Holds cur nxt) :
    cur.st 0 * cur.st 1 = 4294967296 * (65536 * cur.hp 3 + cur.hp 2) + (65536 * cur.hp 1 + cur.hp 0) ∧
    nxt.st 1 = 65536 * cur.hp 1 + cur.hp 0 ∧ nxt.st 0 = 65536 * cur.hp 3 + cur.hp 2 ∧
    CopyFrom cur nxt 2 := by
  obtain ⟨-, u1, u2, u3⟩ := (h.demands .u32mul hop).u32
  exact ⟨by rw [u3, v64_eq], by rw [u1, vLo_eq], by rw [u2, vHi_eq], h.copyFrom .u32mul hop 2⟩

/-- U32MADD (78): `a * b + c` equals the 64-bit aggregation; the rest shifts left by one. -/
theorem air_sound_u32madd (cur nxt : Row F) (hop : cur.opcode = 78) (h : Holds cur nxt) :
    cur.st 0 * cur.st 1 + cur.st 2
      = 4294967296 * (65536 * cur.hp 3 + cur.hp 2) + (65536 * cur.hp 1 + cur.hp 0) ∧
    nxt.st 1 = 65536 * cur.hp 1 + cur.hp 0 ∧ nxt.st 0 = 65536 * cur.hp 3 + cur.hp 2 ∧
    LeftFrom cur nxt 3 := by
  obtain ⟨-, u1, u2, u3⟩ := (h.demands .u32madd hop).u32
  exact ⟨by rw [u3, v64_eq], by rw [u1, vLo_eq], by rw [u2, vHi_eq], h.leftFrom .u32madd hop 3⟩

/-- U32SPLIT (72): the operand equals the 64-bit aggregation of the limbs; the halves are pushed. -/
theorem air_sound_u32split (cur nxt : Row F) (hop : cur.opcode = 72) (h : Holds cur nxt) :
    cur.st 0 = 4294967296 * (65536 * cur.hp 3 + cur.hp 2) + (65536 * cur.hp 1 + cur.hp 0) ∧
    nxt.st 1 = 65536 * cur.hp 1 + cur.hp 0 ∧ nxt.st 0 = 65536 * cur.hp 3 + cur.hp 2 ∧
    RightFrom cur nxt 1 ∧ nxt.b0 = cur.b0 + 1 := by
  obtain ⟨-, u1, u2, u3⟩ := (h.demands .u32split hop).u32
  exact ⟨by rw [u3, v64_eq], by rw [u1, vLo_eq], by rw [u2, vHi_eq], h.rightFrom .u32split hop 1,
    ((overflow_right .u32split hop).mp h.overflow).2.1⟩

/-- U32DIV (70): `b = a * q + r` with `b - q` and `a - r - 1` equal to range-checked aggregations
    (i.e. `q ≤ b` and `r < a` under the range-check contract). -/
theorem air_sound_u32div (cur nxt : Row F) (hop : cur.opcode = 70) (h : Holds cur nxt) :
    cur.st 0 * nxt.st 1 + nxt.st 0 = cur.st 1 ∧
    cur.st 1 - nxt.st 1 = 65536 * cur.hp 1 + cur.hp 0 ∧
    cur.st 0 - nxt.st 0 = 65536 * cur.hp 3 + cur.hp 2 + 1 ∧ CopyFrom cur nxt 2 := by
  obtain ⟨u1, u2, u3⟩ := (h.demands .u32div hop).u32
  exact ⟨u1, by rw [u2, vLo_eq], by rw [u3, vHi_eq], h.copyFrom .u32div hop 2⟩

/-- PUSH (100) and ADVPOP (61): everything moves one slot down, depth and overflow address follow
    (the pushed value itself comes from the decoder / advice provider, not from the stack AIR). -/
theorem air_sound_push (cur nxt : Row F) (hop : cur.opcode = 100) (h : Holds cur nxt) :
    RightFrom cur nxt 0 ∧ nxt.b0 = cur.b0 + 1 ∧ nxt.b1 = cur.clk :=
  h.push (.push 0) hop

theorem air_sound_advpop (cur nxt : Row F) (hop : cur.opcode = 61) (h : Holds cur nxt) :
    RightFrom cur nxt 0 ∧ nxt.b0 = cur.b0 + 1 ∧ nxt.b1 = cur.clk :=
  h.push .advpop hop

end Miden.C04
