/-
  C17 — standard-library hash functions agree with their reference definitions.

  Theorems are about `Generated.sha256_*` / `Generated.native_*`: the operation lists the real
  assembler produces from stdlib/asm/crypto/hashes/*.masm (regenerated on every run), against the
  reference definitions of `Spec/Hashes.lean` (FIPS 180-4, transcribed independently of the code).
  They hold for every 32-bit input word and every stack below (≥ 16 deep so that no zero padding
  is involved), which is returned untouched.

  `native::hash_memory_even` (the RPO sponge loop over memory) is proved whole, for every number of
  double words, and tied to the model's `Rpo.hashElements` (= `Rpo256::hash_elements`, itself
  compared with miden-crypto on every run).  The other whole-function statements (`hash_2to1`,
  `hash_1to1`, sha256 `hash_memory`, BLAKE3, Keccak-256) are not
  proved: they are decided by the three-way correspondence run (real VM = reference crates = Lean
  reference = Lean executor on the compiled MAST); the note at the end of this file says what is
  missing for the SHA-256 compression function.
-/
import Miden.Lemmas.HashTac
import Miden.Lemmas.PipeMem
namespace Miden.C17
open Spec.H

/-- σ0 of the SHA-256 message schedule. -/
theorem sha256_small_sigma_0_spec (vm : Vm) (x : Nat) (r : List Nat) (hs : vm.stack = x :: r)
    (hx : x < two32) (hr : 16 ≤ r.length) :
    stackRun Generated.sha256_small_sigma_0 vm = .ok (Sha256.ssig0 x :: r) := by
  rw [stackRun_at hs]
  pure_exec Generated.sha256_small_sigma_0
  simp only [Sha256.ssig0, xor3, xor_assoc_nat]

/-- σ1 of the SHA-256 message schedule. -/
theorem sha256_small_sigma_1_spec (vm : Vm) (x : Nat) (r : List Nat) (hs : vm.stack = x :: r)
    (hx : x < two32) (hr : 16 ≤ r.length) :
    stackRun Generated.sha256_small_sigma_1 vm = .ok (Sha256.ssig1 x :: r) := by
  rw [stackRun_at hs]
  pure_exec Generated.sha256_small_sigma_1
  simp only [Sha256.ssig1, xor3, xor_assoc_nat]

/-- Σ0 of the SHA-256 compression function. -/
theorem sha256_cap_sigma_0_spec (vm : Vm) (x : Nat) (r : List Nat) (hs : vm.stack = x :: r)
    (hx : x < two32) (hr : 16 ≤ r.length) :
    stackRun Generated.sha256_cap_sigma_0 vm = .ok (Sha256.bsig0 x :: r) := by
  rw [stackRun_at hs]
  pure_exec Generated.sha256_cap_sigma_0
  simp only [Sha256.bsig0, xor3, xor_assoc_nat]

/-- Σ1 of the SHA-256 compression function. -/
theorem sha256_cap_sigma_1_spec (vm : Vm) (x : Nat) (r : List Nat) (hs : vm.stack = x :: r)
    (hx : x < two32) (hr : 16 ≤ r.length) :
    stackRun Generated.sha256_cap_sigma_1 vm = .ok (Sha256.bsig1 x :: r) := by
  rw [stackRun_at hs]
  pure_exec Generated.sha256_cap_sigma_1
  simp only [Sha256.bsig1, xor3, xor_assoc_nat]

theorem sha256_ch_spec (vm : Vm) (x y z : Nat) (r : List Nat) (hs : vm.stack = x :: y :: z :: r)
    (hx : x < two32) (hy : y < two32) (hz : z < two32) (hr : 16 ≤ r.length) :
    stackRun Generated.sha256_ch vm = .ok (Sha256.ch x y z :: r) := by
  rw [stackRun_at hs]
  pure_exec Generated.sha256_ch
  simp only [Sha256.ch]
  rw [land_comm_nat y x]

theorem sha256_maj_spec (vm : Vm) (x y z : Nat) (r : List Nat) (hs : vm.stack = x :: y :: z :: r)
    (hx : x < two32) (hy : y < two32) (hz : z < two32) (hr : 16 ≤ r.length) :
    stackRun Generated.sha256_maj vm = .ok (Sha256.maj x y z :: r) := by
  rw [stackRun_at hs]
  pure_exec Generated.sha256_maj
  simp only [Sha256.maj, xor3, xor_assoc_nat]
  rw [land_comm_nat y x]

/-- `compute_message_schedule_word`: `W[t] = σ1(W[t-2]) + W[t-7] + σ0(W[t-15]) + W[t-16] mod 2^32`. -/
theorem sha256_message_schedule_word_spec (vm : Vm) (a b c d : Nat) (r : List Nat)
    (hs : vm.stack = a :: b :: c :: d :: r) (ha : a < two32) (hb : b < two32) (hc : c < two32)
    (hd : d < two32) (hr : 16 ≤ r.length) :
    stackRun Generated.sha256_compute_message_schedule_word vm
      = .ok ((Sha256.ssig1 a + b + Sha256.ssig0 c + d) % m32 :: r) := by
  rw [stackRun_at hs]
  pure_exec Generated.sha256_compute_message_schedule_word
  simp (disch := u32b) only [u32_small, ← xor_assoc_nat]
  simp only [Sha256.ssig0, Sha256.ssig1, xor3, m32, two32, Except.ok.injEq, List.cons.injEq, and_true]
  omega

/-- `consume_message_word` is exactly one round of the SHA-256 compression function
    (`Spec.H.Sha256.round`, FIPS 180-4 §6.2.2 step 3) on the eight working variables, for every
    32-bit state, round constant and message word; the rest of the stack is untouched. -/
theorem sha256_round_spec (vm : Vm) (a b c d e f g h k w x0 x1 x2 x3 x4 x5 : Nat) (r : List Nat)
    (hs : vm.stack = a :: b :: c :: d :: e :: f :: g :: h :: k :: w :: x0 :: x1 :: x2 :: x3 :: x4 :: x5 :: r)
    (ha : a < two32) (hb : b < two32) (hc : c < two32) (hd : d < two32) (he : e < two32)
    (hf : f < two32) (hg : g < two32) (hh : h < two32) (hk : k < two32) (hw : w < two32)
    (hr : 16 ≤ r.length) :
    stackRun Generated.sha256_consume_message_word vm
      = .ok (Sha256.round [a, b, c, d, e, f, g, h] (k, w) ++ x0 :: x1 :: x2 :: x3 :: x4 :: x5 :: r) := by
  rw [stackRun_at hs]
  pure_exec Generated.sha256_consume_message_word
  simp (disch := u32b) only [u32_small, ← xor_assoc_nat, land_comm_nat f e, land_comm_nat b a]
  simp only [Sha256.round, Sha256.bsig0, Sha256.bsig1, Sha256.ch, Sha256.maj, xor3, m32, two32, List.cons_append,
    List.nil_append, Except.ok.injEq, List.cons.injEq, and_true, true_and]
  constructor <;> omega

/-- `rev_element_order` reverses the top four elements. -/
theorem sha256_rev_element_order_spec (vm : Vm) (a b c d : Nat) (r : List Nat)
    (hs : vm.stack = a :: b :: c :: d :: r) :
    stackRun Generated.sha256_rev_element_order vm = .ok (d :: c :: b :: a :: r) := by
  rw [stackRun_at hs]
  simp only [Generated.sha256_rev_element_order, pure_exec]

/-- `native::state_to_digest`: the digest of an RPO state `[C, B, A, …]` is its middle word `B`. -/
theorem native_state_to_digest_spec (vm : Vm) (c0 c1 c2 c3 b0 b1 b2 b3 a0 a1 a2 a3 : Nat) (r : List Nat)
    (hs : vm.stack = c0 :: c1 :: c2 :: c3 :: b0 :: b1 :: b2 :: b3 :: a0 :: a1 :: a2 :: a3 :: r)
    (hr : 16 ≤ r.length) :
    stackRun Generated.native_state_to_digest vm = .ok (b0 :: b1 :: b2 :: b3 :: r) := by
  rw [stackRun_at hs]
  simp (disch := omega) only [Generated.native_state_to_digest, pure_exec]

/-- **`native::hash_memory_even`** (MAST regenerated from native.masm): for every initial hasher state
    `v` (capacity, rate — natural order; on the stack reversed), every start address and every number
    `K` of double words with the end address at most 2^32, a completed execution leaves the state after
    `K` sponge steps of the RPO permutation over the memory words `start .. start+2K-1` in address
    order (`HashMem.hashEven`), both pointers equal to the end address, and memory, frame pointer,
    context and the rest of the stack untouched. -/
theorem native_hash_memory_even_spec (env : Env) (fuel : Nat) (vm vm' : Vm) (v : List Nat) (start K : Nat)
    (rest : List Nat) (hv : v.length = 12)
    (hs : vm.stack = v.reverse ++ start :: (start + 2 * K) :: rest) (hrest : 2 ≤ rest.length)
    (he : start + 2 * K ≤ 4294967296)
    (h : Vm.exec env fuel Generated.native_hash_memory_even vm = .ok vm') :
    vm'.stack = (HashMem.hashEven vm.ctx vm.mem K start v).reverse ++ (start + 2 * K) :: (start + 2 * K) :: rest ∧
      vm'.mem = vm.mem ∧ vm'.fmp = vm.fmp ∧ vm'.ctx = vm.ctx := by
  obtain ⟨hd, hc, _⟩ := (HashMem.hash_memory_even_completes hv hrest he).sound (by rw [Vm.data, hs]) rfl h
  exact ⟨congrArg ASt.stack hd, congrArg ASt.mem hd, congrArg ASt.fmp hd, hc⟩

/-- Started from the all-zero state (what `hash_memory` sets up for an even number of words), the
    digest part of the final state is `Rpo256::hash_elements` of the `8K` field elements stored in
    memory at `start .. start+2K-1`. -/
theorem native_hash_memory_even_is_hash_elements (env : Env) (fuel : Nat) (vm vm' : Vm) (start K : Nat)
    (rest : List Nat)
    (hs : vm.stack = List.replicate 12 0 ++ start :: (start + 2 * K) :: rest) (hrest : 2 ≤ rest.length)
    (he : start + 2 * K ≤ 4294967296)
    (h : Vm.exec env fuel Generated.native_hash_memory_even vm = .ok vm') :
    Rpo.digestOf ((vm'.stack.take 12).reverse) = Rpo.hashElements (HashMem.memEls vm.ctx vm.mem start K) := by
  have hs2 : vm.stack = (List.replicate 12 0).reverse ++ start :: (start + 2 * K) :: rest := by
    rw [hs, List.reverse_replicate]
  obtain ⟨h1, _⟩ := native_hash_memory_even_spec env fuel vm vm' _ start K rest (by simp) hs2 hrest he h
  have hl := HashMem.hashEven_len vm.ctx vm.mem K start (List.replicate 12 0) (by simp)
  rw [h1, List.take_append_of_le_length (by rw [List.length_reverse, hl]; exact Nat.le_refl _),
    List.take_of_length_le (by rw [List.length_reverse, hl]; exact Nat.le_refl _), List.reverse_reverse]
  exact HashMem.hashEven_is_hashElements vm.ctx vm.mem K start

/-- **`native::hash_memory_even` terminates**: with fuel `≥ K + 3` and a cycle budget of `9·K + 12` the
    executor completes for every hasher state, start address and number `K` of double words, and the
    state is the one of `native_hash_memory_even_spec`. -/
theorem native_hash_memory_even_terminates (env : Env) (fuel : Nat) (vm : Vm) (v : List Nat) (start K : Nat)
    (rest : List Nat) (hv : v.length = 12)
    (hs : vm.stack = v.reverse ++ start :: (start + 2 * K) :: rest) (hrest : 2 ≤ rest.length)
    (he : start + 2 * K ≤ 4294967296)
    (hf : K + 3 ≤ fuel) (hb : vm.clk + 9 * K + 12 ≤ env.maxCycles) :
    ∃ vm', Vm.exec env fuel Generated.native_hash_memory_even vm = .ok vm' ∧
      vm'.stack = (HashMem.hashEven vm.ctx vm.mem K start v).reverse ++ (start + 2 * K) :: (start + 2 * K) :: rest := by
  obtain ⟨vm', h, hd, _⟩ := HashMem.hash_memory_even_completes hv hrest he env fuel vm (by rw [Vm.data, hs]) rfl hf
    (by omega)
  exact ⟨vm', h, congrArg ASt.stack hd⟩

/-- The sponge steps, spelled out: no word absorbed leaves the state alone; one more double word is
    one more overwrite-mode absorption followed by the permutation. -/
theorem hashEven_zero (ctx : Nat) (m : Mem) (a : Nat) (v : List Nat) : HashMem.hashEven ctx m 0 a v = v := rfl
theorem hashEven_succ (ctx : Nat) (m : Mem) (i a : Nat) (v : List Nat) :
    HashMem.hashEven ctx m (i + 1) a v
      = Rpo.permute ((HashMem.hashEven ctx m i a v).take 4 ++ (m.read ctx (a + 2 * i)).toList
          ++ (m.read ctx (a + 2 * i + 1)).toList) :=
  HashMem.hashEven_succ ctx m i a v

/-! What is missing for the whole compression function: `Spec.H.Sha256.compress` is 64 applications
    of `Sha256.round` (proved above for the compiled `consume_message_word`) to words produced by the
    schedule recurrence (proved above for `compute_message_schedule_word`); the composition through
    the unrolled `prepare_message_schedule_and_consume`, which keeps the schedule in procedure locals
    (memory), is not proved — it is covered by the correspondence run only. -/

/-! Non-vacuity: the hypotheses are met by concrete states and the procedures really run. -/
example : (stackRun Generated.sha256_small_sigma_0 { stack := 0x12345678 :: List.replicate 16 7 }).toOption
    = some (Sha256.ssig0 0x12345678 :: List.replicate 16 7) := by decide
example : (stackRun Generated.sha256_consume_message_word
    { stack := [1, 2, 3, 4, 5, 6, 7, 8, 0x428a2f98, 0x61626380] ++ List.replicate 22 9 }).toOption
    = some (Sha256.round [1, 2, 3, 4, 5, 6, 7, 8] (0x428a2f98, 0x61626380) ++ List.replicate 22 9) := by decide

-- the hash_memory_even hypotheses are met and the loop really runs (two double words)
example : ((Vm.exec {} 20 Generated.native_hash_memory_even
      { stack := List.replicate 12 0 ++ [100, 104, 5, 6],
        mem := [((0, 100), ⟨1, 2, 3, 4⟩), ((0, 101), ⟨5, 6, 7, 8⟩), ((0, 102), ⟨9, 10, 11, 12⟩)] }).toOption.map
      (fun v => (Rpo.digestOf ((v.stack.take 12).reverse), v.stack.drop 12)))
    = some (Rpo.hashElements [1, 2, 3, 4, 5, 6, 7, 8, 9, 10, 11, 12, 0, 0, 0, 0], [104, 104, 5, 6]) := by decide +kernel

end Miden.C17
