/-
  C19 — decoders of untrusted bytes never panic and accept only what they can re-encode.

  A Lean function cannot panic, so panic-freedom of the *Rust* decoders is decided on every run by
  feeding them mutated and random bytes under `catch_unwind` (and by checking that accepted values
  re-encode and decode to the same value); what is proved here is the corresponding statement for
  the modelled decoders, which are compared with the real ones on accept/reject *and* on the
  decoded value for every generated byte string.
-/
import Miden.Model.Serde
import Miden.Props.C02
namespace Miden.C19
open Miden.Serde

/-- The stack-input decoder accepts only canonical field elements, as many as its length prefix
    announces (which itself fits in 32 bits). -/
theorem stack_inputs_canonical_only (bs vs : List Nat) (h : decodeStackInputs bs = some vs) :
    (∀ v ∈ vs, v < P) ∧ vs.length < 4294967296 := by
  unfold decodeStackInputs at h
  split at h
  · rename_i n r hn
    split at h
    · rename_i vs' r' hr
      simp only [Option.some.injEq] at h
      subst h
      obtain ⟨hl, hc⟩ := readFelts_spec n r vs' r' hr
      have hn' := readLE_lt 4 bs n r hn
      exact ⟨hc, by rw [hl]; simpa using hn'⟩
    · cases h
  · cases h

/-- Accepted stack inputs re-encode to bytes that decode to an equal value. -/
theorem stack_inputs_accepts_reencodable (bs vs : List Nat) (h : decodeStackInputs bs = some vs) :
    decodeStackInputs (encodeStackInputs vs) = some vs :=
  decodeStackInputs_reencodable bs vs h

/-- Accepted stack outputs satisfy the constructor's invariants: at least 16 and at most 65535
    items, canonical elements and addresses, matching overflow-address count. -/
theorem stack_outputs_validated (bs st ad : List Nat) (h : decodeStackOutputs bs = some (st, ad)) :
    16 ≤ st.length ∧ st.length ≤ 65535 ∧ (∀ v ∈ st, v < P) ∧ (∀ v ∈ ad, v < P) ∧
    ad.length = (if st.length > 16 then st.length + 1 - 16 else 0) := by
  -- the decoder's only `some` is behind `outputsValid`
  have hv : outputsValid st ad = true := by
    unfold decodeStackOutputs at h
    repeat' split at h
    all_goals cases h
    assumption
  simpa only [outputsValid, Bool.and_eq_true, decide_eq_true_eq, List.all_eq_true, and_assoc] using hv

/-- The proof-envelope decoder is total: short inputs and unknown tags yield `none`. -/
theorem proof_envelope_total (bs : List Nat) :
    (bs.length < 2 → proofFromBytes bs = none) ∧
    (∀ t rest, bs = t :: rest → 2 < t → proofFromBytes bs = none) :=
  C02.from_bytes_total bs

-- Non-vacuity: a non-canonical element and a short byte string are refused, a valid one accepted.
example : decodeStackInputs (writeU32 1 ++ writeU64 18446744069414584321) = none := by decide
example : decodeStackInputs [1, 0, 0] = none := by decide
example : decodeStackInputs (encodeStackInputs [5, 6]) = some [5, 6] := by decide

end Miden.C19
