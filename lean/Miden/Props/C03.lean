/-
  C03 — honest execution traces satisfy the entire AIR.

  What is *proved* here is the part of the statement that the abstract executor model carries:
  the clock column (`clk' = clk + 1` on every row of every execution), the stack-depth column
  (`b0` changes exactly as the AIR's shift flags demand, for every operation the model executes, 76
  of the 78 non-control operations, and every state) and the trace-length rule; that the rows of
  those operations satisfy all stack constraints is `Props/C03Air.lean`.  That the remaining columns
  of the *real* trace satisfy the remaining constraints is decided on every run by evaluating the
  real `ProcessorAir` (all 182 main + auxiliary constraints and all boundary assertions, two random
  challenge vectors) on every row of every generated trace — see DESIGN.md §4 C03.
-/
import Miden.Lemmas.Step
import Miden.Lemmas.Exec
import Miden.Model.Options
namespace Miden.C03
open Miden.Vm

/-- AIR constraint 0 on honest rows: every executed row advances the clock by exactly one. -/
theorem clk_constraint_holds (env : Env) (vm vm' : Vm) (op row : Op)
    (h : vm.execRow env op row = .ok vm') : vm'.clk = vm.clk + 1 :=
  (execRow_ok h).1

/-- The depth column on honest rows: for every operation and every state of depth ≥ 16, the depth
    after the operation is `b0 + 1` for right-shifting operations, `b0 - 1` for left-shifting ones
    unless the depth is already 16 (then it stays 16: this is the `overflow` factor of the AIR's
    depth constraint), and `b0` otherwise. -/
theorem depth_constraint_holds (vm vm' : Vm) (op : Op) (hl : 16 ≤ vm.stack.length)
    (h : vm.step op = .ok vm') :
    vm'.stack.length = (if isRight op then vm.stack.length + 1
      else if isLeft op then max 16 (vm.stack.length - 1) else vm.stack.length) :=
  stepCore_depth hl ((step_eq_stepCore vm op).symm.trans h)

theorem nextPow2Nat_spec (n : Nat) :
    n ≤ nextPow2Nat n ∧ ∃ k, nextPow2Nat n = 2 ^ k := by
  unfold nextPow2Nat
  by_cases h1 : n ≤ 1
  · simp only [h1, if_true]
    exact ⟨trivial, 0, rfl⟩
  · simp only [h1, if_false]
    refine ⟨?_, _, rfl⟩
    have hlt : n - 1 < 2 ^ (Nat.log2 (n - 1) + 1) := Nat.lt_log2_self
    omega

/-- The trace length rule of `finalize_trace` (`traceLen`, compared with the length of every
    real trace by the harness): a power of two, at least 64, with room for the HALT row after the
    executed cycles, the padding row after the chiplets and the random last row. -/
theorem trace_len_ok (clk r c : Nat) :
    clk + 2 ≤ traceLen clk r c ∧ r + 1 ≤ traceLen clk r c ∧ c + 2 ≤ traceLen clk r c ∧
    64 ≤ traceLen clk r c ∧ ∃ k, traceLen clk r c = 2 ^ k := by
  unfold traceLen MIN_TRACE_LEN
  obtain ⟨h1, k, h2⟩ := nextPow2Nat_spec (max (max r (clk + 1)) (c + 1) + 1)
  refine ⟨by omega, by omega, by omega, by omega, ?_⟩
  by_cases h : 64 ≤ nextPow2Nat (max (max r (clk + 1)) (c + 1) + 1)
  · exact ⟨k, by omega⟩
  · exact ⟨6, by omega⟩

theorem nextPow2Nat_least (n m : Nat) (hn : 2 ≤ n) (hm : n ≤ 2 ^ m) : nextPow2Nat n ≤ 2 ^ m := by
  unfold nextPow2Nat
  have h1 : ¬ n ≤ 1 := by omega
  simp only [h1, if_false]
  have hlog : Nat.log2 (n - 1) < m := by
    have hne : n - 1 ≠ 0 := by omega
    rw [Nat.log2_lt hne]
    omega
  exact Nat.pow_le_pow_right (by omega) (by omega)

/-- Minimality: any power of two that is at least 64 and has room for all components is at least
    the trace length — the trace is never longer than the rule requires. -/
theorem trace_len_least (clk r c m : Nat) (h64 : 64 ≤ 2 ^ m) (hc : clk + 2 ≤ 2 ^ m)
    (hr : r + 1 ≤ 2 ^ m) (hch : c + 2 ≤ 2 ^ m) : traceLen clk r c ≤ 2 ^ m := by
  unfold traceLen MIN_TRACE_LEN
  have := nextPow2Nat_least (max (max r (clk + 1)) (c + 1) + 1) m (by omega) (by omega)
  omega

example : traceLen 63 10 8 = 128 ∧ traceLen 62 10 8 = 64 ∧ traceLen 20 30 62 = 64 ∧ traceLen 20 30 63 = 128
    ∧ traceLen 20 63 8 = 64 ∧ traceLen 20 64 8 = 128 := by decide

-- Non-vacuity / sanity of the shift classification against concrete operations.
example : isLeft Op.add = true ∧ isRight Op.pad = true ∧ isLeft Op.swap = false ∧ isRight Op.swap = false
    ∧ isRight (Op.push 5) = true ∧ isRight Op.u32split = true ∧ isLeft Op.u32madd = true := by decide

end Miden.C03
