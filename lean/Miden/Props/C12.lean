/-
  C12 — all lookups between trace components balance.

  Model: `Miden.Model.Lookup` (`buildAuxColumn` = `AuxColumnBuilder::build_aux_column`,
  `logUpColumn` = the range checker's `b_range`), executed by the driver on the rows recounted from
  real traces and compared with the columns built by the implementation.
  The theorems hold over every field, hence for the Goldilocks field and its extensions, for every
  challenge and every number of rows.
-/
import Miden.Lemmas.Lookup
import Mathlib.LinearAlgebra.Lagrange

namespace Miden.Lookup
open Polynomial

variable {F : Type} [Field F]

/-- Every row of the column in closed form. -/
theorem column_value (v q0 : F) (resp req : List F) (h : resp.length = req.length)
    (hne : ∀ q ∈ req, q ≠ 0) (i : Nat) (hi : i < (buildAuxColumn v q0 resp req).length) :
    (buildAuxColumn v q0 resp req)[i]
      = v * (resp.take i).prod * ((req.take i).prod)⁻¹ := by
  simp only [buildAuxColumn_eq_spec v q0 resp req h hne]
  rw [specColumn_getElem v 1 resp req, one_mul]

/-- If the rows removed are a rearrangement of the rows added (and no reduced row is zero), the
    column returns to its initial value. -/
theorem specColumn_balanced (v : F) (resp req : List F) (hperm : resp.Perm req)
    (hne : ∀ q ∈ req, q ≠ 0) :
    (specColumn v 1 resp req).getLast (specColumn_ne_nil v 1 resp req) = v := by
  rw [specColumn_getLast v 1 resp req hperm.length_eq, hperm.prod_eq]
  rw [one_mul, mul_assoc, mul_inv_cancel₀ (prod_ne_zero hne), mul_one]

/-- Converse for a single value: if the column returns to its (non-zero) initial value then the
    product of the added rows equals the product of the removed rows. -/
theorem products_equal_of_returns (v : F) (hv : v ≠ 0) (resp req : List F) (h : resp.length = req.length)
    (hne : ∀ q ∈ req, q ≠ 0)
    (hret : (specColumn v 1 resp req).getLast (specColumn_ne_nil v 1 resp req) = v) :
    resp.prod = req.prod := by
  rw [specColumn_getLast v 1 resp req h] at hret
  have hprod := prod_ne_zero hne
  field_simp at hret
  exact hret

/-- `∏ (X + c)` over a multiset of rows, written `∏ (X - C (-c))`: Mathlib states the degree and the
    roots of such products for `X - C a`. -/
noncomputable def rowPoly (a : Multiset F) : F[X] := ((a.map Neg.neg).map (fun c => X - C c)).prod

theorem rowPoly_eval (a : Multiset F) (α : F) :
    (rowPoly a).eval α = (a.map (fun c => α + c)).prod := by
  simp only [rowPoly, eval_multiset_prod, Multiset.map_map, Function.comp_def, eval_sub, eval_X,
    eval_C, sub_neg_eq_add]

theorem rowPoly_degree_le (a : Multiset F) : (rowPoly a).degree ≤ a.card := by
  refine le_trans Polynomial.degree_le_natDegree ?_
  rw [rowPoly, Polynomial.natDegree_multiset_prod_X_sub_C_eq_card]
  simp

/-- Schwartz–Zippel for one variable, stated deterministically: two multisets of (reduced) rows
    whose challenge products `∏ (α + c)` agree for more challenges `α` than either has elements are
    equal. -/
theorem multiset_eq_of_products_agree (a b : Multiset F) (S : Finset F)
    (ha : a.card < S.card) (hb : b.card < S.card)
    (hagree : ∀ α ∈ S, (a.map (fun c => α + c)).prod = (b.map (fun c => α + c)).prod) :
    a = b := by
  have hPQ : rowPoly a = rowPoly b := by
    apply Polynomial.eq_of_degree_sub_lt_of_eval_finset_eq S
    · refine lt_of_le_of_lt (Polynomial.degree_sub_le _ _) ?_
      exact max_lt (lt_of_le_of_lt (rowPoly_degree_le a) (by exact_mod_cast ha))
        (lt_of_le_of_lt (rowPoly_degree_le b) (by exact_mod_cast hb))
    · intro α hα
      rw [rowPoly_eval, rowPoly_eval, hagree α hα]
  have hroots : a.map Neg.neg = b.map Neg.neg := by
    rw [← Polynomial.roots_multiset_prod_X_sub_C (a.map Neg.neg),
      ← Polynomial.roots_multiset_prod_X_sub_C (b.map Neg.neg)]
    exact congrArg Polynomial.roots hPQ
  simpa [Multiset.map_map, Function.comp] using congrArg (Multiset.map Neg.neg) hroots

/-- The property for the columns built by the implementation: when the rows removed from a virtual
    table / requested from a bus are a rearrangement of the rows added / provided, the column built
    by `build_aux_column` ends at its initial value, whatever the challenges were. -/
theorem aux_column_balanced (v q0 : F) (resp req : List F) (hperm : resp.Perm req)
    (hne : ∀ q ∈ req, q ≠ 0) :
    ∃ hnil, (buildAuxColumn v q0 resp req).getLast hnil = v := by
  have he := buildAuxColumn_eq_spec v q0 resp req hperm.length_eq hne
  refine ⟨by rw [he]; exact specColumn_ne_nil _ _ _ _, ?_⟩
  simp only [he]
  exact specColumn_balanced v resp req hperm hne

/-- A table updated by additions and removals (a removal needs the row to be present). -/
def applyEvents [DecidableEq F] : Multiset F → List (Bool × F) → Option (Multiset F)
  | t, [] => some t
  | t, (true, x) :: es => applyEvents (x ::ₘ t) es
  | t, (false, x) :: es => if x ∈ t then applyEvents (t.erase x) es else none

omit [Field F] in
/-- Virtual tables: if a table goes from state `t0` to state `t1` through a sequence of additions
    and removals, then `t0 + added = t1 + removed` as multisets; in particular a table that starts
    and ends empty has added exactly what it removed. -/
theorem table_events_balance [DecidableEq F] (t0 t1 : Multiset F) (es : List (Bool × F))
    (h : applyEvents t0 es = some t1) :
    t0 + ((es.filter (·.1)).map (·.2) : Multiset F) = t1 + ((es.filter (fun e => !e.1)).map (·.2) : Multiset F) := by
  induction es generalizing t0 with
  | nil => simp [applyEvents] at h; simp [h]
  | cons e es ih =>
    obtain ⟨b, x⟩ := e
    cases b with
    | true =>
      have := ih (x ::ₘ t0) h
      simp only [List.filter_cons, Bool.not_true, if_true, Bool.false_eq_true, if_false,
        List.map_cons] at this ⊢
      rw [← this]
      simp [Multiset.cons_add, ← Multiset.cons_coe]
    | false =>
      simp only [applyEvents] at h
      split at h
      · next hx =>
        have := ih (t0.erase x) h
        simp only [List.filter_cons, Bool.not_false, if_true, Bool.false_eq_true, if_false,
          List.map_cons] at this ⊢
        rw [← Multiset.cons_coe, Multiset.add_cons, ← this, ← Multiset.cons_add,
          Multiset.cons_erase hx]
      · cases h

omit [Field F] in
theorem table_empty_to_empty [DecidableEq F] (es : List (Bool × F))
    (h : applyEvents (0 : Multiset F) es = some 0) :
    ((es.filter (·.1)).map (·.2)).Perm ((es.filter (fun e => !e.1)).map (·.2)) := by
  have := table_events_balance 0 0 es h
  simp only [zero_add] at this
  exact Multiset.coe_eq_coe.mp this

/-- If the values looked up (by the stack and the memory chiplet, over all rows) are exactly the
    table values repeated according to their multiplicities, the bus returns to its initial value,
    for every challenge `alpha`. -/
theorem logUp_balanced (alpha b : F) (rows : List (List (ℕ × F) × List F))
    (hperm : (rows.flatMap (·.2)).Perm
      ((rows.flatMap (·.1)).flatMap (fun mv => List.replicate mv.1 mv.2))) :
    (logUpColumn alpha b (rows.map (fun r => (r.1.map (fun mv => ((mv.1 : F), mv.2)), r.2)))).getLast
      (logUpColumn_ne_nil _ _ _) = b := by
  rw [logUpColumn_getLast]
  rw [List.flatMap_map, List.flatMap_map, ← List.map_flatMap, List.map_map]
  have h3 := (hperm.map (fun l => (alpha - l)⁻¹)).sum_eq
  rw [h3, sum_replicate_terms]
  simp only [Function.comp_def]
  rw [add_sub_cancel_right]

/-! Non-vacuity: concrete columns over `ℚ`. -/

example : buildAuxColumn (1 : ℚ) 1 [2, 3, 1] [1, 3, 2] = [1, 2, 2, 1] := by
  norm_num [buildAuxColumn, prefixProds, backward, prod]

example : ([2, 3, 1] : List ℚ).Perm [1, 3, 2] ∧ ∀ q ∈ ([1, 3, 2] : List ℚ), q ≠ 0 := by
  refine ⟨by decide, ?_⟩
  intro q hq
  simp at hq
  rcases hq with h | h | h <;> simp [h]

example : applyEvents (0 : Multiset ℚ) [(true, 5), (true, 7), (false, 7), (false, 5)] = some 0 := by
  decide

end Miden.Lookup
