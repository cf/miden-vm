/-
  C07 — contexts isolate memory and stack; memory is zero-initialised word RAM.
-/
import Miden.Lemmas.ExecInv
namespace Miden.C07
open Miden.Vm

/-- Memory is a map from (context, address) to words with default zero: a never-written address
    reads zeros, a read returns the last word written to that (context, address), and writes to
    another context or address are invisible. -/
theorem memory_is_zero_initialised_ram (m : Mem) (c a c' a' : Nat) (w : Word) :
    (Mem.read [] c a = Word.zero) ∧
    ((m.write c a w).read c a = w) ∧
    ((c', a') ≠ (c, a) → (m.write c a w).read c' a' = m.read c' a') := by
  exact ⟨rfl, Mem.read_write_same m c a w, Mem.read_write_other⟩

/-- An element store changes only element 0 of the word, in the current context only. -/
theorem mstore_changes_only_element_zero (vm vm' : Vm) (a v : Nat) (r : List Nat)
    (hs : vm.stack = a :: v :: r) (ha : a ≤ u32max) (h : vm.step .mstore = .ok vm') :
    vm'.mem.read vm.ctx a = { vm.mem.read vm.ctx a with w0 := v } ∧
    (∀ c' a', (c', a') ≠ (vm.ctx, a) → vm'.mem.read c' a' = vm.mem.read c' a') := by
  have hna : ¬ a > u32max := by omega
  simp only [step, stepCore, hs, validAddr, hna, if_false] at h
  cases h
  exact ⟨Mem.read_write_same _ _ _ _, fun c' a' hne => Mem.read_write_other hne⟩

/-- Addresses of 2^32 or more fail for every memory operation, before any state change. -/
theorem address_out_of_bounds_fails (vm : Vm) (a : Nat) (r : List Nat) (hs : vm.stack = a :: r)
    (ha : u32max < a) :
    vm.step .mload = .error (.addrOOB a) ∧
    (∀ s1 s2 s3 s4 r', r = s1 :: s2 :: s3 :: s4 :: r' →
      vm.step .mloadw = .error (.addrOOB a) ∧ vm.step .mstorew = .error (.addrOOB a)) ∧
    (∀ v r', r = v :: r' → vm.step .mstore = .error (.addrOOB a)) := by
  have hgt : a > u32max := ha
  refine ⟨by simp [step, stepCore, hs, validAddr, hgt], ?_, ?_⟩
  · intro s1 s2 s3 s4 r' hr
    subst hr
    constructor <;> simp [step, stepCore, hs, validAddr, hgt]
  · intro v r' hr
    subst hr
    simp [step, stepCore, hs, validAddr, hgt]

/-- The two-word operations also fail when only their *second* word falls at 2^32. -/
theorem second_word_out_of_bounds_fails (vm : Vm) (s : List Nat) (r : List Nat)
    (hs : vm.stack = s ++ u32max :: r) (hlen : s.length = 12) :
    vm.step .mstream = .error (.addrOOB (u32max + 1)) ∧
    vm.step .pipe = .error (.addrOOB (u32max + 1)) := by
  match s, hlen with
  | [s0, s1, s2, s3, s4, s5, s6, s7, s8, s9, s10, s11], _ =>
    simp only [List.cons_append, List.nil_append] at hs
    constructor <;> simp [step, stepCore, hs, validAddr, u32max]

/-- CALL frame: whatever the callee does, if the call returns then the caller's stack below the
    top 16, its context id, its free-memory pointer and its function hash are exactly as before,
    and the visible stack is again at least 16 deep. -/
theorem call_restores_caller (env : Env) (fuel : Nat) (target : Word) (sc : Bool) (vm vm' : Vm)
    (hl : 16 ≤ vm.stack.length) (h : exec env fuel (.call target sc) vm = .ok vm') :
    vm'.stack.drop 16 = vm.stack.drop 16 ∧ vm'.ctx = vm.ctx ∧ vm'.fmp = vm.fmp ∧
    vm'.fnHash = vm.fnHash ∧ 16 ≤ vm'.stack.length := by
  have hlen := exec_len hl h
  obtain ⟨n, rfl⟩ := exec_succ h
  obtain ⟨_, v1, v2, h1, h2, hd, h3⟩ := exec_call_ok.mp h
  have l1 := execRow_len (enter_len hl) h1
  have l2 : 16 ≤ v2.stack.length := by
    rcases h2 with ⟨_, h2⟩ | ⟨_, b, _, h2⟩
    · exact (exec_len_all env n).2.1 _ _ l1 h2
    · exact exec_len l1 h2
  have e16 : v2.stack.length = 16 := by omega
  have := execRow_noop h3
  subst this
  refine ⟨?_, rfl, rfl, rfl, hlen⟩
  simp [leave, e16]

/-- The callee of a CALL starts in a fresh context: context id `clk + 1`, free-memory pointer 2^30,
    and a visible stack that is exactly the caller's top 16; a SYSCALL callee starts in the root
    context with free-memory pointer 2^31.  (Shown on the state in which the CALL row executes.) -/
theorem callee_frame (vm : Vm) (target : Word) :
    let callee : Vm := { vm with stack := vm.stack.take 16, ctx := vm.clk + 1, fmp := FMP_MIN,
                                 fnHash := target }
    let sys : Vm := { vm with stack := vm.stack.take 16, ctx := 0, fmp := SYSCALL_FMP_MIN,
                              inSyscall := true }
    (16 ≤ vm.stack.length → callee.stack.length = 16) ∧ callee.fmp = 2 ^ 30 ∧ sys.fmp = 2 ^ 31 ∧
    sys.ctx = 0 := by
  refine ⟨?_, by show FMP_MIN = 2 ^ 30; decide, by show SYSCALL_FMP_MIN = 2 ^ 31; decide, rfl⟩
  intro h
  simp
  omega

/-- A SYSCALL whose target is not a kernel procedure fails before any row is executed. -/
theorem syscall_only_kernel (env : Env) (fuel : Nat) (target : Word) (vm : Vm)
    (hk : env.kernel.contains target = false) :
    exec env (fuel + 1) (.call target true) vm = .error .notInKernel := by
  have hk' : ¬ target ∈ env.kernel := by simpa using hk
  simp [exec, hk']

/-- A callee that returns with more than 16 visible elements makes the execution fail. -/
theorem call_depth_checked (env : Env) (fuel : Nat) (target : Word) (sc : Bool) (vm vm' : Vm)
    (hl : 16 ≤ vm.stack.length) (h : exec env fuel (.call target sc) vm = .ok vm') :
    vm'.stack.length = 16 + (vm.stack.length - 16) := by
  obtain ⟨h1, _, _, _, h5⟩ := call_restores_caller env fuel target sc vm vm' hl h
  have : (vm'.stack.drop 16).length = (vm.stack.drop 16).length := by rw [h1]
  simp at this
  omega

/-- `caller` fails outside a SYSCALL and yields the saved function hash inside one. -/
theorem caller_semantics (vm : Vm) (s0 s1 s2 s3 : Nat) (r : List Nat)
    (hs : vm.stack = s0 :: s1 :: s2 :: s3 :: r) :
    (vm.inSyscall = false → vm.step .caller = .error .callerNotInSyscall) ∧
    (vm.inSyscall = true → vm.step .caller =
      .ok { vm with stack := vm.fnHash.w3 :: vm.fnHash.w2 :: vm.fnHash.w1 :: vm.fnHash.w0 :: r }) := by
  constructor
  · intro h
    simp [step, stepCore, h]
  · intro h
    simp [step, stepCore, h, hs, setStack]

-- Non-vacuity: a state with a 20-deep stack calling an (absent) target is a real input.
example : (exec {} 5 (.call ⟨1, 2, 3, 4⟩ false) { stack := List.replicate 20 7 }).toOption = none := by
  decide

end Miden.C07
