/-
  C05 — instruction semantics match the instruction reference on every stack state.

  The per-instruction refinement theorems (`Miden.C05.refines_*`, one per instruction form, about the
  operation lists regenerated from the real assembler) live in `Props/C05Auto/*.lean`; this file
  holds the stack-discipline theorems that hold for every operation sequence.
-/
import Miden.Props.C05Auto
namespace Miden.C05
open Miden.Vm

/-- The stack depth never drops below 16, for every sequence of operations and every start state. -/
theorem depth_never_below_16 : ∀ (ops : List Op) (vm vm' : Vm), 16 ≤ vm.stack.length →
    runOps ops vm = .ok vm' → 16 ≤ vm'.stack.length
  | [], vm, vm', hl, h => by cases h; exact hl
  | op :: rest, vm, vm', hl, h => by
    simp only [runOps] at h
    split at h
    · cases h
    · rename_i v hs
      exact depth_never_below_16 rest v vm' (step_len hl hs) h

/-- At depth exactly 16 a left shift brings a zero in at the bottom. -/
theorem left_shift_brings_zero (vm : Vm) (x : Nat) (r : List Nat) (hs : vm.stack = x :: r)
    (hl : vm.stack.length = 16) : vm.step .drop = .ok { vm with stack := r ++ [0] } := by
  rw [step_drop vm x r hs]
  have : r.length = 15 := by
    rw [hs] at hl
    simpa using hl
  simp [pad16, this]

/-- Elements pushed beyond position 15 come back in LIFO order: pushing any values onto a stack of
    depth ≥ 16 and dropping as many restores exactly the original stack (nothing below 15 is lost or
    reordered). -/
theorem overflow_is_lifo : ∀ (vs : List Nat) (vm : Vm), 16 ≤ vm.stack.length →
    runOps (vs.map Op.push ++ List.replicate vs.length Op.drop) vm = .ok vm
  | [], vm, _ => rfl
  | v :: vs, vm, hl => by
    have e : (v :: vs).map Op.push ++ List.replicate (v :: vs).length Op.drop
        = [Op.push v] ++ ((vs.map Op.push ++ List.replicate vs.length Op.drop) ++ [Op.drop]) := by
      simp [List.replicate_succ']
    rw [e, runOps_append]
    have hp : vm.step (.push v) = .ok { vm with stack := v :: vm.stack } := by
      simp [step, stepCore, setStack]
    simp only [runOps, hp, Except.bind_ok']
    rw [runOps_append, overflow_is_lifo vs _ (by simp; omega)]
    simp only [runOps, Except.bind_ok']
    rw [step_drop _ v vm.stack rfl]
    simp [pad16_eq, padN_of_le hl]

-- Non-vacuity: a 17-deep stack, three pushes and three drops.
example : (runOps ([1, 2, 3].map Op.push ++ List.replicate 3 Op.drop)
    { stack := List.range 17 }).toOption.map (·.stack) = some (List.range 17) := by
  decide

end Miden.C05
