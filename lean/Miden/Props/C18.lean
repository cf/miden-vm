/-
  C18 — standard-library memory, stack and collection utilities keep their contracts.

  Theorems are about `Generated.sys_truncate_stack`, `Generated.mem_memcopy` and
  `Generated.mem_pipe_double_words_to_memory` (the MASTs the real assembler produces for
  `exec.sys::truncate_stack`, `exec.mem::memcopy`, `exec.mem::pipe_double_words_to_memory`,
  regenerated on every run).
-/
import Miden.Lemmas.Trunc
import Miden.Lemmas.Memcopy
import Miden.Lemmas.PipeMem
namespace Miden.C18

def truncLoopBody : List Op :=
  [Op.drop, Op.drop, Op.drop, Op.drop, Op.sdepth, Op.push 16, Op.eq, Op.not]

/-- The MAST of `truncate_stack` has the documented shape: prologue span (save the top 16 in four
    locals, drop them, test the depth), the `while.true` loop, epilogue span (reload the locals). -/
theorem truncate_stack_shape :
    ∃ pro epi, Generated.sys_truncate_stack = .join (.join (.span pro) (.loop (.span truncLoopBody))) (.span epi) :=
  ⟨_, _, rfl⟩

/-- One iteration of the loop of `truncate_stack`: on any stack of depth ≥ 16 it removes four
    elements without going below 16 (zeros are shifted in) and leaves the continuation flag
    `depth ≠ 16` on top. -/
theorem truncate_loop_body_spec (a b c d : Nat) (r : List Nat) :
    runPure truncLoopBody (a :: b :: c :: d :: r)
      = .ok ((if (padN 16 r).length = 16 then 0 else 1) :: padN 16 r) := by
  -- four drops nest four paddings (`padN_padN`)
  have e1 : max 16 (max 15 (max 14 13)) = 16 := by decide
  simp only [truncLoopBody, runPure_cons, Except.bind_ok_step, ps_drop, ps_sdepth, ps_push, ps_eq, ps_not_ite,
    runPure_nil, padN_cons, padN_padN, e1]
  rfl

/-- The loop terminates: the depth strictly decreases while it is above 16. -/
theorem truncate_loop_measure (r : List Nat) (h : (padN 16 r).length ≠ 16) :
    (padN 16 r).length < r.length + 4 ∧ 16 < (padN 16 r).length := by
  unfold padN at *
  simp only [List.length_append, List.length_replicate] at *
  omega

/-- **truncate_stack leaves exactly the original top 16 elements for any deeper stack.**
    `Generated.sys_truncate_stack` is the MAST the real assembler produces for
    `exec.sys::truncate_stack` (regenerated on every run); `Vm.exec` is the executor model with clock,
    cycle limit and decoder rows.  For every environment, fuel, initial state whose stack is at least
    16 deep (any depth, any contents) and whose frame pointer leaves room for the procedure's four
    locals: if the execution completes, the final stack is the original top 16 elements, and the frame
    pointer and the context are restored. -/
theorem truncate_stack_exact (env : Env) (fuel : Nat) (vm vm' : Vm) (hl : 16 ≤ vm.stack.length)
    (hf1 : FMP_MIN ≤ vm.fmp) (hf2 : vm.fmp + 4 ≤ FMP_MAX)
    (h : Vm.exec env fuel Generated.sys_truncate_stack vm = .ok vm') :
    vm'.stack = vm.stack.take 16 ∧ vm'.fmp = vm.fmp ∧ vm'.ctx = vm.ctx :=
  Trunc.truncate_stack_spec env fuel vm vm' hl hf1 hf2 h

/-- The loop alone: from any depth it ends with depth exactly 16 (frame pointer, memory, context
    untouched). -/
theorem truncate_loop_exact (env : Env) (fuel : Nat) (vm vm' : Vm) (c : Nat) (t : List Nat) (F : Nat) (M : Mem)
    (C : Nat) (hd : Trunc.D vm (c :: t) F M C) (h16 : 16 ≤ t.length) (h1 : c = 1 ↔ t.length ≠ 16)
    (h0 : c = 0 ↔ t.length = 16) (h : Vm.exec env fuel (.loop (.span Trunc.bodyB)) vm = .ok vm') :
    ∃ s', Trunc.D vm' s' F M C ∧ s'.length = 16 := by
  obtain ⟨s', hl, hc⟩ := Trunc.loop_completes C c t F M vm.adv h16 ⟨h1, h0⟩
  obtain ⟨hs, hf, hm, hctx⟩ := hd
  obtain ⟨hd', hc', _⟩ := hc.sound (by rw [Vm.data, hs, hf, hm]) hctx h
  exact ⟨s', ⟨congrArg ASt.stack hd', congrArg ASt.fmp hd', congrArg ASt.mem hd', hc'⟩, hl⟩

/-- **memcopy moves exactly the requested words.**  `Generated.mem_memcopy` is the MAST the real
    assembler produces for `exec.mem::memcopy` (regenerated on every run).  For every word count `n`
    (zero included) and every read / write pointer whose windows lie in the 32-bit address space —
    disjoint, overlapping either way, or identical — a completed execution consumes exactly
    `[n, read_ptr, write_ptr]`, leaves the rest of the stack (zero-padded to depth 16) untouched and
    leaves memory equal to `Memcopy.copyFwd`: the documented word-by-word copy, lowest address
    first; all other memory, the frame pointer and the context are unchanged. -/
theorem memcopy_exact (env : Env) (fuel : Nat) (vm vm' : Vm) (n r0 w0 : Nat) (rest : List Nat)
    (hs : vm.stack = n :: r0 :: w0 :: rest) (hrest : 13 ≤ rest.length)
    (hr : r0 + n ≤ 4294967296) (hw : w0 + n ≤ 4294967296)
    (h : Vm.exec env fuel Generated.mem_memcopy vm = .ok vm') :
    vm'.stack = padN 16 rest ∧ vm'.mem = Memcopy.copyFwd vm.ctx n r0 w0 vm.mem ∧ vm'.fmp = vm.fmp ∧
      vm'.ctx = vm.ctx :=
  Memcopy.memcopy_spec env fuel vm vm' n r0 w0 rest hs hrest hr hw h

/-- For every initial hasher state `v` (capacity, rate), start address, number `K` of double words
    (end address at most 2^32) and EVERY advice tape: a completed execution of the MAST regenerated
    from stdlib/asm/mem.masm found at least `8K` elements on the tape, consumed exactly those, left
    memory equal to `PipeMem.pipeMem` (the tape written word by word from `start` upwards), the hasher
    state of `K` overwrite-mode sponge steps over the consumed elements, the write pointer at the end
    address, and frame pointer, context and the rest of the stack untouched. -/
theorem pipe_double_words_to_memory_exact (env : Env) (fuel : Nat) (vm vm' : Vm) (v : List Nat) (start K : Nat)
    (rest : List Nat) (hv : v.length = 12)
    (hs : vm.stack = v.reverse ++ start :: (start + 2 * K) :: rest) (hrest : 2 ≤ rest.length)
    (he : start + 2 * K ≤ 4294967296)
    (h : Vm.exec env fuel Generated.mem_pipe_double_words_to_memory vm = .ok vm') :
    8 * K ≤ vm.adv.length ∧ vm'.adv = vm.adv.drop (8 * K) ∧
      vm'.stack = padN 16 ((PipeMem.pipeState K v vm.adv).reverse ++ (start + 2 * K) :: rest) ∧
      vm'.mem = PipeMem.pipeMem vm.ctx K start vm.mem vm.adv ∧ vm'.fmp = vm.fmp ∧ vm'.ctx = vm.ctx := by
  have htape := PipeMem.pipe_found_tape env fuel vm vm' v start K rest hv hs hrest he h
  obtain ⟨hd, hc, _⟩ := (PipeMem.pipe_completes hv hrest he htape).sound
    (by rw [Vm.data, hs]) rfl h
  exact ⟨htape, congrArg ASt.adv hd, congrArg ASt.stack hd, congrArg ASt.mem hd, congrArg ASt.fmp hd, hc⟩

/-- **`pipe_double_words_to_memory` completes exactly when the tape is long enough**: with fuel
    `≥ K + 4` and a cycle budget of `9·K + 22`, the executor completes if and only if the advice tape
    holds at least `8K` elements. -/
theorem pipe_double_words_completes_iff (env : Env) (fuel : Nat) (vm : Vm) (v : List Nat) (start K : Nat)
    (rest : List Nat) (hv : v.length = 12)
    (hs : vm.stack = v.reverse ++ start :: (start + 2 * K) :: rest) (hrest : 2 ≤ rest.length)
    (he : start + 2 * K ≤ 4294967296)
    (hf : K + 4 ≤ fuel) (hb : vm.clk + 9 * K + 22 ≤ env.maxCycles) :
    (∃ vm', Vm.exec env fuel Generated.mem_pipe_double_words_to_memory vm = .ok vm') ↔ 8 * K ≤ vm.adv.length :=
  ⟨fun ⟨vm', h⟩ => PipeMem.pipe_found_tape env fuel vm vm' v start K rest hv hs hrest he h,
   fun ht => (PipeMem.pipe_completes hv hrest he ht env fuel vm
     (by rw [Vm.data, hs]) rfl hf (by omega)).imp fun _ h => h.1⟩

/-- What was piped can be read back: word `j < 2K` above `start` holds tape elements `4j .. 4j+3`. -/
theorem piped_memory_holds_the_tape (ctx : Nat) (tape : List Nat) (a : Nat) (m : Mem) (K j : Nat) (hj : j < 2 * K) :
    (PipeMem.pipeMem ctx K a m tape).read ctx (a + j) = Word.ofList ((tape.drop (4 * j)).take 4) := by
  induction K with
  | zero => omega
  | succ K ih =>
    rw [PipeMem.pipeMem_succ]
    by_cases h1 : j = 2 * K + 1
    · subst h1
      rw [show 4 * (2 * K + 1) = 8 * K + 4 by omega]
      exact Mem.read_write_same _ _ _ _
    · by_cases h2 : j = 2 * K
      · subst h2
        rw [Mem.read_write_ne (by omega), Mem.read_write_same, show 4 * (2 * K) = 8 * K by omega]
      · rw [Mem.read_write_ne (by omega), Mem.read_write_ne (by omega)]
        exact ih (by omega)

/-- Addresses outside `[start, start + 2K)` are untouched. -/
theorem piped_memory_frame (ctx : Nat) (tape : List Nat) (a : Nat) (m : Mem) (K b : Nat) (hb : b < a ∨ a + 2 * K ≤ b) :
    (PipeMem.pipeMem ctx K a m tape).read ctx b = m.read ctx b := by
  induction K with
  | zero => rfl
  | succ K ih =>
    rw [PipeMem.pipeMem_succ, Mem.read_write_ne (by omega), Mem.read_write_ne (by omega)]
    exact ih (by omega)

/-- From the all-zero state the digest part of the piped hasher state is `Rpo256::hash_elements` of
    the consumed tape elements - the commitment `pipe_preimage_to_memory` compares. -/
theorem piped_state_is_hash_elements (K : Nat) (tape : List Nat) (hl : 8 * K ≤ tape.length) :
    Rpo.digestOf (PipeMem.pipeState K (List.replicate 12 0) tape) = Rpo.hashElements (tape.take (8 * K)) :=
  PipeMem.pipeState_is_hashElements K tape hl

-- the hypotheses are met and the loop really runs (one double word); a short tape makes it fail
example : ((Vm.exec {} 20 Generated.mem_pipe_double_words_to_memory
      { stack := List.replicate 12 0 ++ [100, 102, 5, 6], adv := [1, 2, 3, 4, 5, 6, 7, 8, 9] }).toOption.map
      (fun v => (v.adv, v.mem.read 0 100, v.mem.read 0 101, v.stack.drop 12)))
    = some ([9], ⟨1, 2, 3, 4⟩, ⟨5, 6, 7, 8⟩, [102, 5, 6, 0]) := by decide +kernel
example : (Vm.exec {} 20 Generated.mem_pipe_double_words_to_memory
      { stack := List.replicate 12 0 ++ [100, 102, 5, 6], adv := [1, 2, 3, 4, 5, 6, 7] }).toOption = none := by
  decide +kernel

/-- **`truncate_stack` terminates**: for every stack at least 16 deep and a frame pointer with room
    for the four locals, with fuel `≥ (depth − 13)/4 + 4` and a cycle budget of
    `11·((depth − 13)/4) + 80`, the executor completes and leaves exactly the original top 16. -/
theorem truncate_stack_terminates (env : Env) (fuel : Nat) (vm : Vm) (hl : 16 ≤ vm.stack.length)
    (hf1 : FMP_MIN ≤ vm.fmp) (hf2 : vm.fmp + 4 ≤ FMP_MAX)
    (hf : (vm.stack.length - 13) / 4 + 4 ≤ fuel)
    (hb : vm.clk + 11 * ((vm.stack.length - 13) / 4) + 80 ≤ env.maxCycles) :
    ∃ vm', Vm.exec env fuel Generated.sys_truncate_stack vm = .ok vm' ∧ vm'.stack = vm.stack.take 16 := by
  obtain ⟨vm', h, hd, _⟩ := Trunc.truncate_stack_completes (vm.stack.drop 16) (List.length_take_of_le hl) hf1 hf2
    env fuel vm (by rw [Vm.data, List.take_append_drop]) rfl
    (by rw [List.length_drop]; omega) (by rw [List.length_drop]; omega)
  exact ⟨vm', h, congrArg ASt.stack hd⟩

/-- **`memcopy` terminates**: for every word count `n`, pointers in the 32-bit address space, fuel
    `≥ n + 4` and a cycle budget of `19·n + 25`, the executor completes (the result is then the one of
    `memcopy_exact`): total correctness, not only partial. -/
theorem memcopy_terminates (env : Env) (fuel : Nat) (vm : Vm) (n r0 w0 : Nat) (rest : List Nat)
    (hs : vm.stack = n :: r0 :: w0 :: rest) (hrest : 13 ≤ rest.length)
    (hr : r0 + n ≤ 4294967296) (hw : w0 + n ≤ 4294967296)
    (hf : n + 4 ≤ fuel) (hb : vm.clk + 19 * n + 25 ≤ env.maxCycles) :
    ∃ vm', Vm.exec env fuel Generated.mem_memcopy vm = .ok vm' ∧
      vm'.stack = padN 16 rest ∧ vm'.mem = Memcopy.copyFwd vm.ctx n r0 w0 vm.mem := by
  obtain ⟨vm', h, hd, _⟩ := Memcopy.memcopy_completes hrest hr hw env fuel vm
    (by rw [Vm.data, hs]) rfl hf (by omega)
  exact ⟨vm', h, congrArg ASt.stack hd, congrArg ASt.mem hd⟩

/-- Zero length copies nothing; one more word is one more write after the shorter copy. -/
theorem copyFwd_zero (ctx r w : Nat) (m : Mem) : Memcopy.copyFwd ctx 0 r w m = m := rfl
theorem copyFwd_succ (ctx i r w : Nat) (m : Mem) :
    Memcopy.copyFwd ctx (i + 1) r w m
      = (Memcopy.copyFwd ctx i r w m).write ctx (w + i) ((Memcopy.copyFwd ctx i r w m).read ctx (r + i)) := rfl

/-- With disjoint windows every copied word is the original word of the source. -/
theorem copyFwd_disjoint (ctx r w : Nat) (m : Mem) (n : Nat) (hd : r + n ≤ w ∨ w + n ≤ r) :
    ∀ j, j < n → (Memcopy.copyFwd ctx n r w m).read ctx (w + j) = m.read ctx (r + j) := by
  -- reads of the source window are never affected by the writes
  have src : ∀ i, i ≤ n → ∀ a, (a < w ∨ w + i ≤ a) → (Memcopy.copyFwd ctx i r w m).read ctx a = m.read ctx a := by
    intro i
    induction i with
    | zero => intro _ a _; rfl
    | succ i ih =>
      intro hi a ha
      rw [copyFwd_succ, Mem.read_write_ne (by omega)]
      exact ih (by omega) a (by omega)
  induction n with
  | zero => intro j hj; omega
  | succ n ih =>
    intro j hj
    rw [copyFwd_succ]
    by_cases hjn : j = n
    · subst hjn
      rw [Mem.read_write_same]
      exact src j (by omega) (r + j) (by omega)
    · rw [Mem.read_write_ne (by omega)]
      exact ih (by omega) (fun i hi a ha => src i (by omega) a ha) j (by omega)

-- Non-vacuity: an overlapping copy (read window 10..11, write window 11..12) on the executor model.
example :
    ((Vm.exec {} 60 Generated.mem_memcopy
        { stack := [2, 10, 11] ++ List.replicate 13 7,
          mem := [((0, 10), ⟨1, 2, 3, 4⟩), ((0, 11), ⟨5, 6, 7, 8⟩)] }).toOption.map
      (fun v => (v.stack, v.mem.read 0 10, v.mem.read 0 11, v.mem.read 0 12)))
    = some (List.replicate 13 7 ++ [0, 0, 0], ⟨1, 2, 3, 4⟩, ⟨1, 2, 3, 4⟩, ⟨1, 2, 3, 4⟩) := by decide

-- Non-vacuity: a concrete run of the executor model on the regenerated MAST completes and truncates.
example : ((Vm.exec {} 40 Generated.sys_truncate_stack { stack := List.range 23 }).toOption.map (·.stack))
    = some (List.range 16) := by decide

example : (runPure truncLoopBody (List.range 23)).toOption = some (1 :: (List.range 23).drop 4) := by decide
example : (runPure truncLoopBody (List.range 18)).toOption
    = some (0 :: ((List.range 18).drop 4 ++ [0, 0])) := by decide

end Miden.C18
