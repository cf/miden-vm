import Miden.Props.C05Auto.Field
import Miden.Props.C05Auto.Stack
import Miden.Props.C05Auto.U32
import Miden.Props.C05Auto.U32Bits
