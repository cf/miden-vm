/-
  C08 — the program commitment is the specified MAST hash of the executable code.
-/
import Miden.Lemmas.Batch
import Miden.Model.Mast
import Miden.Generated.OpTableLinked
import Miden.Lemmas.Distinct

namespace Miden.C08

/-- The hand-written operation table (`Op.code`, `Op.hasImm`, `Op.isControl`) is, row by row, the
    table exported from the crate that is linked into the harness. -/
theorem opcode_table_agrees :
    Op.all.map (fun o => (o.code, o.hasImm, o.isControl))
      = Generated.opTableLinked.map (fun r => r.2) := by
  decide

/-- Opcodes fit in 7 bits and are pairwise distinct. -/
theorem opcodes_7bit_distinct :
    (Op.all.map Op.code).all (· < 128) = true ∧ (Op.all.map Op.code).Nodup :=
  ⟨by decide, (distinctWith_spec (ys := []) (by decide)).1⟩

/-- Every batch produced for any operation sequence respects the documented limits: exactly 8 group
    slots, at most 8 used groups, at most 9 operations per group, and every group value is a
    sequence of at most 9 seven-bit opcodes (hence < 2^63 and never wraps modulo p). -/
theorem batch_wf (ops : List Op) : ∀ b ∈ batchOps ops, OpBatch.WF b :=
  batchOps_wf ops

/-- Batching neither drops, duplicates nor reorders operations. -/
theorem batch_total (ops : List Op) : (batchOps ops).flatMap (·.ops) = ops :=
  batchOps_flatten ops

/-- Every batch holds at least one operation (no empty batches are hashed). -/
theorem batch_nonempty (ops : List Op) : ∀ b ∈ batchOps ops, b.ops ≠ [] := by
  intro b hb
  obtain ⟨_, _, _, hne, _⟩ := batchOps_mem hb
  exact hne

/-- The control-block hashes are the domain-separated merges of the specification, with the block's
    opcode as domain and a zero word as second child for `loop`, `call` and `syscall`. -/
theorem mast_hash_spec (a b : Block) (w : Word) :
    (Block.join a b).hash = Rpo.mergeInDomain a.hash b.hash 87 ∧
    (Block.split a b).hash = Rpo.mergeInDomain a.hash b.hash 84 ∧
    (Block.loop a).hash = Rpo.mergeInDomain a.hash [0, 0, 0, 0] 85 ∧
    (Block.call w false).hash = Rpo.mergeInDomain w.toList [0, 0, 0, 0] 108 ∧
    (Block.call w true).hash = Rpo.mergeInDomain w.toList [0, 0, 0, 0] 104 ∧
    Block.dyn.hash = Rpo.mergeInDomain [0, 0, 0, 0] [0, 0, 0, 0] 88 := by
  refine ⟨rfl, rfl, rfl, rfl, rfl, rfl⟩

/-- A span's hash is the RPO hash of all of its batches' group elements, 8 per batch. -/
theorem span_hash_spec (ops : List Op) :
    (Block.span ops).hash = Rpo.hashElements ((batchOps ops).flatMap (·.groups)) ∧
    ((batchOps ops).flatMap (·.groups)).length = 8 * (batchOps ops).length := by
  refine ⟨rfl, ?_⟩
  rw [List.length_flatMap, List.map_congr_left (fun b hb => (batchOps_wf ops b hb).1), List.map_const',
    List.sum_replicate_nat, Nat.mul_comm]

/-- Groups decode back to the operations: reading `opCounts[i]` seven-bit opcodes (least significant
    first) out of every group `i` of a batch, in group order, yields exactly the opcodes of the batch's
    operations - for every operation sequence. Groups that hold immediates have count 0. -/
theorem batch_decode (ops : List Op) :
    ∀ b ∈ batchOps ops, codesOf b.groups b.opCounts = b.ops.map Op.code := by
  intro b hb
  obtain ⟨a, h, _, _, rfl⟩ := batchOps_mem hb
  exact h.intoBatch.2.1

/-- Whole span: the groups of all batches decode to the opcode sequence of the span. -/
theorem span_decode (ops : List Op) :
    (batchOps ops).flatMap (fun b => codesOf b.groups b.opCounts) = ops.map Op.code := by
  rw [flatMap_congr (batch_decode ops), ← List.map_flatMap, batch_total]

/-- Up to NOOP padding: the slots of an operation group beyond its operation count hold opcode 0
    (NOOP), so decoding all nine slots of the group yields its operations followed by NOOPs only. -/
theorem batch_padding_is_noop (ops : List Op) :
    ∀ b ∈ batchOps ops, ∀ i, b.opCounts.getD i 0 ≠ 0 →
      decodeGroup 9 (b.groups.getD i 0)
        = decodeGroup (b.opCounts.getD i 0) (b.groups.getD i 0)
          ++ List.replicate (9 - b.opCounts.getD i 0) 0 := by
  intro b hb i hi
  obtain ⟨a, h, _, _, rfl⟩ := batchOps_mem hb
  have := decodeGroup_pad _ (9 - a.intoBatch.opCounts.getD i 0) _ (h.intoBatch.2.2.1 i hi)
  rwa [Nat.add_sub_cancel' (getD_le_of_forall h.intoBatch.1.2.2.2.2 i)] at this

/-- Immediates are placed in the groups that follow their operation's group: the groups of a batch
    below `numGroups` that hold no operations (count 0) hold exactly the immediates of the batch's
    operations, in order - for every operation sequence. -/
theorem batch_immediates (ops : List Op) :
    ∀ b ∈ batchOps ops, immsOf b.groups b.opCounts b.numGroups b.numGroups = b.ops.filterMap Op.imm := by
  intro b hb
  obtain ⟨a, h, h0, _, rfl⟩ := batchOps_mem hb
  exact h.intoBatch.2.2.2 h0

-- Non-vacuity: a batch with pushes (immediate groups have count 0) and a partially filled last group.
example : (batchOps [Op.push 1, .add, .push 2, .mul]).map (fun b => (b.groups, b.opCounts, codesOf b.groups b.opCounts, immsOf b.groups b.opCounts b.numGroups b.numGroups))
    = [([(100 + 34 * 128 + 100 * 128 ^ 2 + 35 * 128 ^ 3), 1, 2, 0, 0, 0, 0, 0], [4, 0, 0, 0, 0, 0, 0, 0], [100, 34, 100, 35], [1, 2])] := by
  decide

-- Eight immediates do not fit beside their operations in one batch: a second batch is opened.
example : (batchOps [Op.push 1, .add, .push 2, .push 3, .push 4, .push 5, .push 6, .push 7,
    .push 8, .add]).length = 2 := by decide

end Miden.C08
