/-
  C04 (continued) — operations whose values travel over a bus or come from the host (memory,
  advice, hasher, kernel): the stack AIR must still pin every cell they leave alone ("frame"
  theorems), for PIPE / MSTREAM also the pointer increment; plus EXT2MUL and CSWAPW.
  The CALLER / PIPE / MSTREAM statements hold of the constraints as they stand since /repo fixes
  26b9d40 and d403189.
-/
import Miden.Lemmas.AirSpec
namespace Miden.C04
open Miden.Air
variable {F : Type} [Field F]

/-- EXT2MUL (25): the top two items stay, the next two become the product of the two quadratic
    extension elements (`x² = x − 2` arithmetic of the docs), the rest is unchanged. -/
theorem air_sound_ext2mul (cur nxt : Row F) (hop : cur.opcode = 25) (h : Holds cur nxt) :
    nxt.st 0 = cur.st 0 ∧ nxt.st 1 = cur.st 1 ∧
    nxt.st 2 = (cur.st 3 + cur.st 2) * (cur.st 0 + cur.st 1) - cur.st 3 * cur.st 1 ∧
    nxt.st 3 = cur.st 3 * cur.st 1 - 2 * cur.st 2 * cur.st 0 ∧ CopyFrom cur nxt 4 :=
  ⟨(h.demands .ext2mul hop).field.1, (h.demands .ext2mul hop).field.2.1,
    (h.demands .ext2mul hop).field.2.2.1, (h.demands .ext2mul hop).field.2.2.2,
    h.copyFrom .ext2mul hop 4⟩

/-- CSWAPW (43): condition binary, the two words below are exchanged exactly when it is 1, the rest
    moves up by one. -/
theorem air_sound_cswapw (cur nxt : Row F) (hop : cur.opcode = 43) (h : Holds cur nxt) :
    (cur.st 0 = 0 ∧ (∀ i, i < 8 → nxt.st i = cur.st (i + 1)) ∨
     cur.st 0 = 1 ∧ (∀ i, i < 4 → nxt.st i = cur.st (i + 5) ∧ nxt.st (i + 4) = cur.st (i + 1))) ∧
    LeftFrom cur nxt 9 := by
  obtain ⟨m1, m2⟩ := (h.demands .cswapw hop).manip
  refine ⟨?_, h.leftFrom .cswapw hop 9⟩
  rcases binary_of_sq (h.demands .cswapw hop).top with h0 | h1
  · refine Or.inl ⟨h0, fun i hi => ?_⟩
    rcases Nat.lt_or_ge i 4 with h4 | h4
    · have := m1 i h4
      rw [h0] at this
      linear_combination this
    · obtain ⟨j, rfl⟩ := Nat.exists_eq_add_of_le' h4
      have := m2 j (by omega)
      rw [h0] at this
      rw [show j + 4 + 1 = j + 5 by omega]
      linear_combination this
  · refine Or.inr ⟨h1, fun i hi => ⟨?_, ?_⟩⟩
    · have := m1 i hi
      rw [h1] at this
      linear_combination this
    · have := m2 i hi
      rw [h1] at this
      linear_combination this

theorem air_frame_mload (cur nxt : Row F) (hop : cur.opcode = 7) (h : Holds cur nxt) : CopyFrom cur nxt 1 :=
  h.copyFrom .mload hop 1

theorem air_frame_caller (cur nxt : Row F) (hop : cur.opcode = 9) (h : Holds cur nxt) : CopyFrom cur nxt 4 :=
  h.copyFrom .caller hop 4

theorem air_frame_advpopw (cur nxt : Row F) (hop : cur.opcode = 14) (h : Holds cur nxt) : CopyFrom cur nxt 4 :=
  h.copyFrom .advpopw hop 4

theorem air_frame_u32and (cur nxt : Row F) (hop : cur.opcode = 38) (h : Holds cur nxt) : LeftFrom cur nxt 2 :=
  h.leftFrom .u32and hop 2

theorem air_frame_u32xor (cur nxt : Row F) (hop : cur.opcode = 39) (h : Holds cur nxt) : LeftFrom cur nxt 2 :=
  h.leftFrom .u32xor hop 2

theorem air_frame_mloadw (cur nxt : Row F) (hop : cur.opcode = 44) (h : Holds cur nxt) : LeftFrom cur nxt 5 :=
  h.leftFrom .mloadw hop 5

theorem air_frame_mstore (cur nxt : Row F) (hop : cur.opcode = 45) (h : Holds cur nxt) : LeftFrom cur nxt 1 :=
  h.leftFrom .mstore hop 1

theorem air_frame_mstorew (cur nxt : Row F) (hop : cur.opcode = 46) (h : Holds cur nxt) : LeftFrom cur nxt 1 :=
  h.leftFrom .mstorew hop 1

theorem air_frame_hperm (cur nxt : Row F) (hop : cur.opcode = 80) (h : Holds cur nxt) : CopyFrom cur nxt 12 :=
  h.copyFrom .hperm hop 12

theorem air_frame_mpverify (cur nxt : Row F) (hop : cur.opcode = 81) (h : Holds cur nxt) : CopyFrom cur nxt 0 :=
  h.copyFrom .mpverify hop 0

theorem air_frame_mrupdate (cur nxt : Row F) (hop : cur.opcode = 96) (h : Holds cur nxt) : CopyFrom cur nxt 4 :=
  h.copyFrom .mrupdate hop 4

theorem air_frame_pipe (cur nxt : Row F) (hop : cur.opcode = 82) (h : Holds cur nxt) :
    CopyFrom cur nxt 13 ∧ (∀ i, 8 ≤ i → i < 12 → nxt.st i = cur.st i) ∧ nxt.st 12 = cur.st 12 + 2 :=
  ⟨h.copyFrom .pipe hop 13,
    fun i h1 h2 => h.cell .pipe hop (i := i) (m := .keep) (by omega) (by interval_cases i <;> rfl),
    (h.demands .pipe hop).io⟩

theorem air_frame_mstream (cur nxt : Row F) (hop : cur.opcode = 83) (h : Holds cur nxt) :
    CopyFrom cur nxt 13 ∧ (∀ i, 8 ≤ i → i < 12 → nxt.st i = cur.st i) ∧ nxt.st 12 = cur.st 12 + 2 :=
  ⟨h.copyFrom .mstream hop 13,
    fun i h1 h2 => h.cell .mstream hop (i := i) (m := .keep) (by omega) (by interval_cases i <;> rfl),
    (h.demands .mstream hop).io⟩
end Miden.C04
