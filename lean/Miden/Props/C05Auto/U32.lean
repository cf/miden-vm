/-
  Refinement theorems (as in C05Auto/Field.lean): u32 arithmetic, comparison, assertions and conversions.
-/
import Miden.Lemmas.InstrFam
namespace Miden.C05
open Miden.Spec

theorem refines_u32assert : ∀ vm : Vm, 16 ≤ vm.stack.length → (∀ x ∈ vm.stack, x < P) →
    Refines (stackRun Generated.ops_u32assert vm) (sem (.u32assert 0) vm.stack) :=
  ignore_canon (u32assert_refines 0)

theorem refines_u32assert_err_3 : ∀ vm : Vm, 16 ≤ vm.stack.length → (∀ x ∈ vm.stack, x < P) →
    Refines (stackRun Generated.ops_u32assert_err_3 vm) (sem (.u32assert 3) vm.stack) :=
  ignore_canon (u32assert_refines 3)

theorem refines_u32assert2 : ∀ vm : Vm, 16 ≤ vm.stack.length →
    Refines (stackRun Generated.ops_u32assert2 vm) (sem (.u32assert2 0) vm.stack) :=
  u32assert2_refines 0

theorem refines_u32assert2_err_5 : ∀ vm : Vm, 16 ≤ vm.stack.length →
    Refines (stackRun Generated.ops_u32assert2_err_5 vm) (sem (.u32assert2 5) vm.stack) :=
  u32assert2_refines 5

theorem refines_u32assertw : ∀ vm : Vm, 16 ≤ vm.stack.length → (∀ x ∈ vm.stack, x < P) →
    Refines (stackRun Generated.ops_u32assertw vm) (sem (.u32assertw 0) vm.stack) :=
  ignore_canon <| refines_of_pure2 fun a3 a2 s hs => by
    obtain ⟨a1, t, rfl, ht⟩ := exists_cons_of_le hs
    obtain ⟨a0, r, rfl, _⟩ := exists_cons_of_le ht
    have e : isU32s [a0, a1, a2, a3] = isU32s [a3, a2, a1, a0] := by
      simp [isU32s, Bool.and_comm, Bool.and_assoc]
    simp only [Generated.ops_u32assertw, rp_u32assert2_total, rp_movup3, runPure_nil]
    show Refines _ (if isU32s [a0, a1, a2, a3] then _ else failAny)
    rw [e]
    exact Refines.u32guard (Refines.u32guard (Refines.u32guard (Refines.u32guard (Refines.ok _))))

theorem refines_u32cast : ∀ vm : Vm, 16 ≤ vm.stack.length → (∀ x ∈ vm.stack, x < P) →
    Refines (stackRun Generated.ops_u32cast vm) (sem .u32cast vm.stack) :=
  ignore_canon <| refines_of_pure1 fun a r hr => by
    rw [Generated.ops_u32cast, rp_u32split, rp_drop, runPure_nil, padN_cons, padN_of_le hr]
    exact Refines.ok _

theorem refines_u32div : ∀ vm : Vm, 16 ≤ vm.stack.length →
    Refines (stackRun Generated.ops_u32div vm) (sem .u32div vm.stack) :=
  refines_of_pure2 fun b a r _ => by
    rw [Generated.ops_u32div, rp_u32div_total]
    refine Refines.ite (fun _ => Refines.fail _) fun _ => Refines.ite_undef fun _ => ?_
    rw [rp_drop, runPure_nil]
    exact Refines.ok _

theorem refines_u32div_1 : ∀ vm : Vm, 16 ≤ vm.stack.length → (∀ x ∈ vm.stack, x < P) →
    Refines (stackRun Generated.ops_u32div_1 vm) (sem (.u32divImm 1) vm.stack) :=
  ignore_canon (u32divImm_refines 1)

theorem refines_u32div_2 : ∀ vm : Vm, 16 ≤ vm.stack.length →
    Refines (stackRun Generated.ops_u32div_2 vm) (sem (.u32divImm 2) vm.stack) :=
  u32divImm_refines 2

theorem refines_u32div_3 : ∀ vm : Vm, 16 ≤ vm.stack.length →
    Refines (stackRun Generated.ops_u32div_3 vm) (sem (.u32divImm 3) vm.stack) :=
  u32divImm_refines 3

theorem refines_u32div_7 : ∀ vm : Vm, 16 ≤ vm.stack.length →
    Refines (stackRun Generated.ops_u32div_7 vm) (sem (.u32divImm 7) vm.stack) :=
  u32divImm_refines 7

theorem refines_u32div_65536 : ∀ vm : Vm, 16 ≤ vm.stack.length →
    Refines (stackRun Generated.ops_u32div_65536 vm) (sem (.u32divImm 65536) vm.stack) :=
  u32divImm_refines 65536

theorem refines_u32div_4294967295 : ∀ vm : Vm, 16 ≤ vm.stack.length →
    Refines (stackRun Generated.ops_u32div_4294967295 vm) (sem (.u32divImm 4294967295) vm.stack) :=
  u32divImm_refines 4294967295

theorem refines_u32divmod : ∀ vm : Vm, 16 ≤ vm.stack.length →
    Refines (stackRun Generated.ops_u32divmod vm) (sem .u32divmod vm.stack) :=
  refines_of_pure2 fun b a r _ => by
    rw [Generated.ops_u32divmod, rp_u32div_total]
    exact Refines.ite (fun _ => Refines.fail _) fun _ => Refines.ite_undef fun _ => Refines.ok _

theorem refines_u32divmod_2 : ∀ vm : Vm, 16 ≤ vm.stack.length →
    Refines (stackRun Generated.ops_u32divmod_2 vm) (sem (.u32divmodImm 2) vm.stack) :=
  u32divmodImm_refines 2

theorem refines_u32divmod_3 : ∀ vm : Vm, 16 ≤ vm.stack.length →
    Refines (stackRun Generated.ops_u32divmod_3 vm) (sem (.u32divmodImm 3) vm.stack) :=
  u32divmodImm_refines 3

theorem refines_u32divmod_7 : ∀ vm : Vm, 16 ≤ vm.stack.length →
    Refines (stackRun Generated.ops_u32divmod_7 vm) (sem (.u32divmodImm 7) vm.stack) :=
  u32divmodImm_refines 7

theorem refines_u32divmod_65536 : ∀ vm : Vm, 16 ≤ vm.stack.length →
    Refines (stackRun Generated.ops_u32divmod_65536 vm) (sem (.u32divmodImm 65536) vm.stack) :=
  u32divmodImm_refines 65536

theorem refines_u32divmod_4294967295 : ∀ vm : Vm, 16 ≤ vm.stack.length →
    Refines (stackRun Generated.ops_u32divmod_4294967295 vm) (sem (.u32divmodImm 4294967295) vm.stack) :=
  u32divmodImm_refines 4294967295

theorem refines_u32lt : ∀ vm : Vm, 16 ≤ vm.stack.length → (∀ x ∈ vm.stack, x < P) →
    Refines (stackRun Generated.ops_u32lt vm) (sem .u32lt vm.stack) :=
  ignore_canon <| refines_of_pure2 fun b a r _ => by
    rw [Generated.ops_u32lt, rp_u32sub, rp_swap, rp_drop, runPure_nil]
    refine Refines.ite_undef fun h => ?_
    rw [u32_sub_borrow (isU32s_pair.mp h).1 (isU32s_pair.mp h).2, b2n_decide]
    exact Refines.ok _

theorem refines_u32mod : ∀ vm : Vm, 16 ≤ vm.stack.length →
    Refines (stackRun Generated.ops_u32mod vm) (sem .u32mod vm.stack) :=
  refines_of_pure2 fun b a r _ => by
    rw [Generated.ops_u32mod, rp_u32div_total]
    refine Refines.ite (fun _ => Refines.fail _) fun _ => Refines.ite_undef fun _ => ?_
    rw [rp_swap, rp_drop, runPure_nil]
    exact Refines.ok _

theorem refines_u32mod_1 : ∀ vm : Vm, 16 ≤ vm.stack.length → (∀ x ∈ vm.stack, x < P) →
    Refines (stackRun Generated.ops_u32mod_1 vm) (sem (.u32modImm 1) vm.stack) :=
  ignore_canon (u32modImm_refines 1)

theorem refines_u32mod_2 : ∀ vm : Vm, 16 ≤ vm.stack.length →
    Refines (stackRun Generated.ops_u32mod_2 vm) (sem (.u32modImm 2) vm.stack) :=
  u32modImm_refines 2

theorem refines_u32mod_3 : ∀ vm : Vm, 16 ≤ vm.stack.length →
    Refines (stackRun Generated.ops_u32mod_3 vm) (sem (.u32modImm 3) vm.stack) :=
  u32modImm_refines 3

theorem refines_u32mod_7 : ∀ vm : Vm, 16 ≤ vm.stack.length →
    Refines (stackRun Generated.ops_u32mod_7 vm) (sem (.u32modImm 7) vm.stack) :=
  u32modImm_refines 7

theorem refines_u32mod_65536 : ∀ vm : Vm, 16 ≤ vm.stack.length →
    Refines (stackRun Generated.ops_u32mod_65536 vm) (sem (.u32modImm 65536) vm.stack) :=
  u32modImm_refines 65536

theorem refines_u32mod_4294967295 : ∀ vm : Vm, 16 ≤ vm.stack.length →
    Refines (stackRun Generated.ops_u32mod_4294967295 vm) (sem (.u32modImm 4294967295) vm.stack) :=
  u32modImm_refines 4294967295

theorem refines_u32overflowing_add_0 : ∀ vm : Vm, 16 ≤ vm.stack.length → (∀ x ∈ vm.stack, x < P) →
    Refines (stackRun Generated.ops_u32overflowing_add_0 vm) (sem (.u32overflowingAddImm 0) vm.stack) :=
  ignore_canon (u32overflowingAddImm_refines 0)

theorem refines_u32overflowing_mul_1 : ∀ vm : Vm, 16 ≤ vm.stack.length → (∀ x ∈ vm.stack, x < P) →
    Refines (stackRun Generated.ops_u32overflowing_mul_1 vm) (sem (.u32overflowingMulImm 1) vm.stack) :=
  ignore_canon (u32overflowingMulImm_refines 1)

theorem refines_u32overflowing_sub : ∀ vm : Vm, 16 ≤ vm.stack.length → (∀ x ∈ vm.stack, x < P) →
    Refines (stackRun Generated.ops_u32overflowing_sub vm) (sem .u32overflowingSub vm.stack) :=
  ignore_canon <| refines_of_pure2 fun b a r _ => by
    rw [Generated.ops_u32overflowing_sub, rp_u32sub, runPure_nil]
    refine Refines.ite_undef fun h => ?_
    obtain ⟨ha, hb⟩ := isU32s_pair.mp h
    rw [u32_sub_borrow ha hb, u32_sub_lo ha hb, b2n_decide]
    exact Refines.ok _

theorem refines_u32overflowing_sub_3 : ∀ vm : Vm, 16 ≤ vm.stack.length → (∀ x ∈ vm.stack, x < P) →
    Refines (stackRun Generated.ops_u32overflowing_sub_3 vm) (sem (.u32overflowingSubImm 3) vm.stack) :=
  ignore_canon (u32overflowingSubImm_refines 3)

theorem refines_u32overflowing_sub_65536 : ∀ vm : Vm, 16 ≤ vm.stack.length → (∀ x ∈ vm.stack, x < P) →
    Refines (stackRun Generated.ops_u32overflowing_sub_65536 vm) (sem (.u32overflowingSubImm 65536) vm.stack) :=
  ignore_canon (u32overflowingSubImm_refines 65536)

theorem refines_u32test : ∀ vm : Vm, 16 ≤ vm.stack.length → (∀ x ∈ vm.stack, x < P) →
    Refines (stackRun Generated.ops_u32test vm) (sem .u32test vm.stack) :=
  ignore_canon <| refines_of_pure1 fun a r hr => by
    rw [Generated.ops_u32test, rp_dup0, rp_u32split, rp_swap, rp_drop, padN_cons, padN_cons,
      padN_of_le (Nat.le_of_succ_le hr), rp_eqz, runPure_nil]
    show Refines _ (.ok (b2n (decide (a < two32)) :: a :: r))
    simp only [b2n_decide, splitHi, Nat.div_eq_zero_iff_lt (show 0 < two32 by decide)]
    exact Refines.ok _

theorem refines_u32wrapping_add_0 : ∀ vm : Vm, 16 ≤ vm.stack.length → (∀ x ∈ vm.stack, x < P) →
    Refines (stackRun Generated.ops_u32wrapping_add_0 vm) (sem (.u32wrappingAddImm 0) vm.stack) :=
  ignore_canon (u32wrappingAddImm_refines 0)

theorem refines_u32wrapping_add_2 : ∀ vm : Vm, 16 ≤ vm.stack.length → (∀ x ∈ vm.stack, x < P) →
    Refines (stackRun Generated.ops_u32wrapping_add_2 vm) (sem (.u32wrappingAddImm 2) vm.stack) :=
  ignore_canon (u32wrappingAddImm_refines 2)

theorem refines_u32wrapping_add_3 : ∀ vm : Vm, 16 ≤ vm.stack.length → (∀ x ∈ vm.stack, x < P) →
    Refines (stackRun Generated.ops_u32wrapping_add_3 vm) (sem (.u32wrappingAddImm 3) vm.stack) :=
  ignore_canon (u32wrappingAddImm_refines 3)

theorem refines_u32wrapping_add_7 : ∀ vm : Vm, 16 ≤ vm.stack.length → (∀ x ∈ vm.stack, x < P) →
    Refines (stackRun Generated.ops_u32wrapping_add_7 vm) (sem (.u32wrappingAddImm 7) vm.stack) :=
  ignore_canon (u32wrappingAddImm_refines 7)

theorem refines_u32wrapping_add_65536 : ∀ vm : Vm, 16 ≤ vm.stack.length → (∀ x ∈ vm.stack, x < P) →
    Refines (stackRun Generated.ops_u32wrapping_add_65536 vm) (sem (.u32wrappingAddImm 65536) vm.stack) :=
  ignore_canon (u32wrappingAddImm_refines 65536)

theorem refines_u32wrapping_add_4294967295 : ∀ vm : Vm, 16 ≤ vm.stack.length → (∀ x ∈ vm.stack, x < P) →
    Refines (stackRun Generated.ops_u32wrapping_add_4294967295 vm) (sem (.u32wrappingAddImm 4294967295) vm.stack) :=
  ignore_canon (u32wrappingAddImm_refines 4294967295)

theorem refines_u32wrapping_add3 : ∀ vm : Vm, 16 ≤ vm.stack.length → (∀ x ∈ vm.stack, x < P) →
    Refines (stackRun Generated.ops_u32wrapping_add3 vm) (sem .u32wrappingAdd3 vm.stack) :=
  ignore_canon <| refines_of_pure2 fun c b s hs => by
    obtain ⟨a, r, rfl, _⟩ := exists_cons_of_le hs
    rw [Generated.ops_u32wrapping_add3, runPure_cons, ps_u32add3, Except.bind_ok_step, padN_cons, rp_drop,
      runPure_nil, padN_padN]
    refine Refines.ite_undef fun h => ?_
    obtain ⟨ha, hb, hc⟩ := isU32s_triple.mp h
    rw [u32_add3_small ha hb hc]
    exact Refines.ok _

theorem refines_u32wrapping_mul_1 : ∀ vm : Vm, 16 ≤ vm.stack.length → (∀ x ∈ vm.stack, x < P) →
    Refines (stackRun Generated.ops_u32wrapping_mul_1 vm) (sem (.u32wrappingMulImm 1) vm.stack) :=
  ignore_canon (u32wrappingMulImm_refines 1)

theorem refines_u32wrapping_mul_3 : ∀ vm : Vm, 16 ≤ vm.stack.length → (∀ x ∈ vm.stack, x < P) →
    Refines (stackRun Generated.ops_u32wrapping_mul_3 vm) (sem (.u32wrappingMulImm 3) vm.stack) :=
  ignore_canon (u32wrappingMulImm_refines 3)

theorem refines_u32wrapping_mul_65536 : ∀ vm : Vm, 16 ≤ vm.stack.length → (∀ x ∈ vm.stack, x < P) →
    Refines (stackRun Generated.ops_u32wrapping_mul_65536 vm) (sem (.u32wrappingMulImm 65536) vm.stack) :=
  ignore_canon (u32wrappingMulImm_refines 65536)

theorem refines_u32wrapping_sub : ∀ vm : Vm, 16 ≤ vm.stack.length → (∀ x ∈ vm.stack, x < P) →
    Refines (stackRun Generated.ops_u32wrapping_sub vm) (sem .u32wrappingSub vm.stack) :=
  ignore_canon <| refines_of_pure2 fun b a r _ => by
    rw [Generated.ops_u32wrapping_sub, rp_u32sub, rp_drop, runPure_nil]
    refine Refines.ite_undef fun h => ?_
    rw [u32_sub_lo (isU32s_pair.mp h).1 (isU32s_pair.mp h).2]
    exact Refines.ok _

theorem refines_u32wrapping_sub_0 : ∀ vm : Vm, 16 ≤ vm.stack.length → (∀ x ∈ vm.stack, x < P) →
    Refines (stackRun Generated.ops_u32wrapping_sub_0 vm) (sem (.u32wrappingSubImm 0) vm.stack) :=
  ignore_canon (u32wrappingSubImm_refines 0)

theorem refines_u32wrapping_sub_1 : ∀ vm : Vm, 16 ≤ vm.stack.length → (∀ x ∈ vm.stack, x < P) →
    Refines (stackRun Generated.ops_u32wrapping_sub_1 vm) (sem (.u32wrappingSubImm 1) vm.stack) :=
  ignore_canon (u32wrappingSubImm_refines 1)

theorem refines_u32wrapping_sub_3 : ∀ vm : Vm, 16 ≤ vm.stack.length → (∀ x ∈ vm.stack, x < P) →
    Refines (stackRun Generated.ops_u32wrapping_sub_3 vm) (sem (.u32wrappingSubImm 3) vm.stack) :=
  ignore_canon (u32wrappingSubImm_refines 3)

theorem refines_u32wrapping_sub_65536 : ∀ vm : Vm, 16 ≤ vm.stack.length → (∀ x ∈ vm.stack, x < P) →
    Refines (stackRun Generated.ops_u32wrapping_sub_65536 vm) (sem (.u32wrappingSubImm 65536) vm.stack) :=
  ignore_canon (u32wrappingSubImm_refines 65536)

end Miden.C05
