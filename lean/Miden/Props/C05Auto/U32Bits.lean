/-
  Refinement theorems (as in C05Auto/Field.lean): u32 bitwise operations, shifts and rotations.
-/
import Miden.Lemmas.InstrFam
namespace Miden.C05
open Miden.Spec

theorem refines_u32and : ∀ vm : Vm, 16 ≤ vm.stack.length → (∀ x ∈ vm.stack, x < P) →
    Refines (stackRun Generated.ops_u32and vm) (sem .u32and vm.stack) :=
  ignore_canon <| refines_of_pure2 fun b a r _ => by
    rw [Generated.ops_u32and, runPure_cons, pureStep_eq_map]
    show Refines (Except.bind (Except.map _ (if a ≥ two32 then _ else if b ≥ two32 then _ else _)) _) _
    rw [Except.map_ite, Except.map_ite, Except.bind_ite, Except.bind_ite]
    exact Refines.u32guard (Refines.u32guard (Refines.ok _))

theorem refines_u32rotl_0 : ∀ vm : Vm, 16 ≤ vm.stack.length → (∀ x ∈ vm.stack, x < P) →
    Refines (stackRun Generated.ops_u32rotl_0 vm) (sem (.u32rotlImm 0) vm.stack) :=
  ignore_canon <| noop_refines rot0_refines

theorem refines_u32rotl_1 : ∀ vm : Vm, 16 ≤ vm.stack.length → (∀ x ∈ vm.stack, x < P) →
    Refines (stackRun Generated.ops_u32rotl_1 vm) (sem (.u32rotlImm 1) vm.stack) :=
  ignore_canon (u32rotlImm_refines 1)

theorem refines_u32rotl_4 : ∀ vm : Vm, 16 ≤ vm.stack.length → (∀ x ∈ vm.stack, x < P) →
    Refines (stackRun Generated.ops_u32rotl_4 vm) (sem (.u32rotlImm 4) vm.stack) :=
  ignore_canon (u32rotlImm_refines 4)

theorem refines_u32rotl_5 : ∀ vm : Vm, 16 ≤ vm.stack.length → (∀ x ∈ vm.stack, x < P) →
    Refines (stackRun Generated.ops_u32rotl_5 vm) (sem (.u32rotlImm 5) vm.stack) :=
  ignore_canon (u32rotlImm_refines 5)

theorem refines_u32rotl_8 : ∀ vm : Vm, 16 ≤ vm.stack.length → (∀ x ∈ vm.stack, x < P) →
    Refines (stackRun Generated.ops_u32rotl_8 vm) (sem (.u32rotlImm 8) vm.stack) :=
  ignore_canon (u32rotlImm_refines 8)

theorem refines_u32rotl_9 : ∀ vm : Vm, 16 ≤ vm.stack.length → (∀ x ∈ vm.stack, x < P) →
    Refines (stackRun Generated.ops_u32rotl_9 vm) (sem (.u32rotlImm 9) vm.stack) :=
  ignore_canon (u32rotlImm_refines 9)

theorem refines_u32rotl_12 : ∀ vm : Vm, 16 ≤ vm.stack.length → (∀ x ∈ vm.stack, x < P) →
    Refines (stackRun Generated.ops_u32rotl_12 vm) (sem (.u32rotlImm 12) vm.stack) :=
  ignore_canon (u32rotlImm_refines 12)

theorem refines_u32rotl_13 : ∀ vm : Vm, 16 ≤ vm.stack.length → (∀ x ∈ vm.stack, x < P) →
    Refines (stackRun Generated.ops_u32rotl_13 vm) (sem (.u32rotlImm 13) vm.stack) :=
  ignore_canon (u32rotlImm_refines 13)

theorem refines_u32rotl_16 : ∀ vm : Vm, 16 ≤ vm.stack.length → (∀ x ∈ vm.stack, x < P) →
    Refines (stackRun Generated.ops_u32rotl_16 vm) (sem (.u32rotlImm 16) vm.stack) :=
  ignore_canon (u32rotlImm_refines 16)

theorem refines_u32rotl_17 : ∀ vm : Vm, 16 ≤ vm.stack.length → (∀ x ∈ vm.stack, x < P) →
    Refines (stackRun Generated.ops_u32rotl_17 vm) (sem (.u32rotlImm 17) vm.stack) :=
  ignore_canon (u32rotlImm_refines 17)

theorem refines_u32rotl_20 : ∀ vm : Vm, 16 ≤ vm.stack.length → (∀ x ∈ vm.stack, x < P) →
    Refines (stackRun Generated.ops_u32rotl_20 vm) (sem (.u32rotlImm 20) vm.stack) :=
  ignore_canon (u32rotlImm_refines 20)

theorem refines_u32rotl_21 : ∀ vm : Vm, 16 ≤ vm.stack.length → (∀ x ∈ vm.stack, x < P) →
    Refines (stackRun Generated.ops_u32rotl_21 vm) (sem (.u32rotlImm 21) vm.stack) :=
  ignore_canon (u32rotlImm_refines 21)

theorem refines_u32rotl_24 : ∀ vm : Vm, 16 ≤ vm.stack.length → (∀ x ∈ vm.stack, x < P) →
    Refines (stackRun Generated.ops_u32rotl_24 vm) (sem (.u32rotlImm 24) vm.stack) :=
  ignore_canon (u32rotlImm_refines 24)

theorem refines_u32rotl_25 : ∀ vm : Vm, 16 ≤ vm.stack.length → (∀ x ∈ vm.stack, x < P) →
    Refines (stackRun Generated.ops_u32rotl_25 vm) (sem (.u32rotlImm 25) vm.stack) :=
  ignore_canon (u32rotlImm_refines 25)

theorem refines_u32rotl_28 : ∀ vm : Vm, 16 ≤ vm.stack.length → (∀ x ∈ vm.stack, x < P) →
    Refines (stackRun Generated.ops_u32rotl_28 vm) (sem (.u32rotlImm 28) vm.stack) :=
  ignore_canon (u32rotlImm_refines 28)

theorem refines_u32rotl_29 : ∀ vm : Vm, 16 ≤ vm.stack.length → (∀ x ∈ vm.stack, x < P) →
    Refines (stackRun Generated.ops_u32rotl_29 vm) (sem (.u32rotlImm 29) vm.stack) :=
  ignore_canon (u32rotlImm_refines 29)

theorem refines_u32rotr_0 : ∀ vm : Vm, 16 ≤ vm.stack.length → (∀ x ∈ vm.stack, x < P) →
    Refines (stackRun Generated.ops_u32rotr_0 vm) (sem (.u32rotrImm 0) vm.stack) :=
  ignore_canon <| noop_refines rot0_refines

theorem refines_u32rotr_1 : ∀ vm : Vm, 16 ≤ vm.stack.length → (∀ x ∈ vm.stack, x < P) →
    Refines (stackRun Generated.ops_u32rotr_1 vm) (sem (.u32rotrImm 1) vm.stack) :=
  ignore_canon (u32rotlImm_refines 31)

theorem refines_u32rotr_4 : ∀ vm : Vm, 16 ≤ vm.stack.length → (∀ x ∈ vm.stack, x < P) →
    Refines (stackRun Generated.ops_u32rotr_4 vm) (sem (.u32rotrImm 4) vm.stack) :=
  ignore_canon (u32rotlImm_refines 28)

theorem refines_u32rotr_5 : ∀ vm : Vm, 16 ≤ vm.stack.length → (∀ x ∈ vm.stack, x < P) →
    Refines (stackRun Generated.ops_u32rotr_5 vm) (sem (.u32rotrImm 5) vm.stack) :=
  ignore_canon (u32rotlImm_refines 27)

theorem refines_u32rotr_8 : ∀ vm : Vm, 16 ≤ vm.stack.length → (∀ x ∈ vm.stack, x < P) →
    Refines (stackRun Generated.ops_u32rotr_8 vm) (sem (.u32rotrImm 8) vm.stack) :=
  ignore_canon (u32rotlImm_refines 24)

theorem refines_u32rotr_9 : ∀ vm : Vm, 16 ≤ vm.stack.length → (∀ x ∈ vm.stack, x < P) →
    Refines (stackRun Generated.ops_u32rotr_9 vm) (sem (.u32rotrImm 9) vm.stack) :=
  ignore_canon (u32rotlImm_refines 23)

theorem refines_u32rotr_12 : ∀ vm : Vm, 16 ≤ vm.stack.length → (∀ x ∈ vm.stack, x < P) →
    Refines (stackRun Generated.ops_u32rotr_12 vm) (sem (.u32rotrImm 12) vm.stack) :=
  ignore_canon (u32rotlImm_refines 20)

theorem refines_u32rotr_13 : ∀ vm : Vm, 16 ≤ vm.stack.length → (∀ x ∈ vm.stack, x < P) →
    Refines (stackRun Generated.ops_u32rotr_13 vm) (sem (.u32rotrImm 13) vm.stack) :=
  ignore_canon (u32rotlImm_refines 19)

theorem refines_u32rotr_16 : ∀ vm : Vm, 16 ≤ vm.stack.length → (∀ x ∈ vm.stack, x < P) →
    Refines (stackRun Generated.ops_u32rotr_16 vm) (sem (.u32rotrImm 16) vm.stack) :=
  ignore_canon (u32rotlImm_refines 16)

theorem refines_u32rotr_17 : ∀ vm : Vm, 16 ≤ vm.stack.length → (∀ x ∈ vm.stack, x < P) →
    Refines (stackRun Generated.ops_u32rotr_17 vm) (sem (.u32rotrImm 17) vm.stack) :=
  ignore_canon (u32rotlImm_refines 15)

theorem refines_u32rotr_20 : ∀ vm : Vm, 16 ≤ vm.stack.length → (∀ x ∈ vm.stack, x < P) →
    Refines (stackRun Generated.ops_u32rotr_20 vm) (sem (.u32rotrImm 20) vm.stack) :=
  ignore_canon (u32rotlImm_refines 12)

theorem refines_u32rotr_21 : ∀ vm : Vm, 16 ≤ vm.stack.length → (∀ x ∈ vm.stack, x < P) →
    Refines (stackRun Generated.ops_u32rotr_21 vm) (sem (.u32rotrImm 21) vm.stack) :=
  ignore_canon (u32rotlImm_refines 11)

theorem refines_u32rotr_24 : ∀ vm : Vm, 16 ≤ vm.stack.length → (∀ x ∈ vm.stack, x < P) →
    Refines (stackRun Generated.ops_u32rotr_24 vm) (sem (.u32rotrImm 24) vm.stack) :=
  ignore_canon (u32rotlImm_refines 8)

theorem refines_u32rotr_25 : ∀ vm : Vm, 16 ≤ vm.stack.length → (∀ x ∈ vm.stack, x < P) →
    Refines (stackRun Generated.ops_u32rotr_25 vm) (sem (.u32rotrImm 25) vm.stack) :=
  ignore_canon (u32rotlImm_refines 7)

theorem refines_u32rotr_28 : ∀ vm : Vm, 16 ≤ vm.stack.length → (∀ x ∈ vm.stack, x < P) →
    Refines (stackRun Generated.ops_u32rotr_28 vm) (sem (.u32rotrImm 28) vm.stack) :=
  ignore_canon (u32rotlImm_refines 4)

theorem refines_u32rotr_29 : ∀ vm : Vm, 16 ≤ vm.stack.length → (∀ x ∈ vm.stack, x < P) →
    Refines (stackRun Generated.ops_u32rotr_29 vm) (sem (.u32rotrImm 29) vm.stack) :=
  ignore_canon (u32rotlImm_refines 3)

theorem refines_u32shl_0 : ∀ vm : Vm, 16 ≤ vm.stack.length → (∀ x ∈ vm.stack, x < P) →
    Refines (stackRun Generated.ops_u32shl_0 vm) (sem (.u32shlImm 0) vm.stack) :=
  ignore_canon <| noop_refines fun a r => by
    show Refines _ (if 0 > 31 then failAny else if a < two32 then .ok (a * 2 ^ 0 % two32 :: r) else undef)
    rw [if_neg (by decide)]
    refine Refines.ite_undef fun ha => ?_
    rw [Nat.pow_zero, Nat.mul_one, Nat.mod_eq_of_lt ha]
    exact Refines.ok _

theorem refines_u32shl_1 : ∀ vm : Vm, 16 ≤ vm.stack.length → (∀ x ∈ vm.stack, x < P) →
    Refines (stackRun Generated.ops_u32shl_1 vm) (sem (.u32shlImm 1) vm.stack) :=
  ignore_canon (u32shlImm_refines 1)

theorem refines_u32shl_2 : ∀ vm : Vm, 16 ≤ vm.stack.length → (∀ x ∈ vm.stack, x < P) →
    Refines (stackRun Generated.ops_u32shl_2 vm) (sem (.u32shlImm 2) vm.stack) :=
  ignore_canon (u32shlImm_refines 2)

theorem refines_u32shl_4 : ∀ vm : Vm, 16 ≤ vm.stack.length → (∀ x ∈ vm.stack, x < P) →
    Refines (stackRun Generated.ops_u32shl_4 vm) (sem (.u32shlImm 4) vm.stack) :=
  ignore_canon (u32shlImm_refines 4)

theorem refines_u32shl_5 : ∀ vm : Vm, 16 ≤ vm.stack.length → (∀ x ∈ vm.stack, x < P) →
    Refines (stackRun Generated.ops_u32shl_5 vm) (sem (.u32shlImm 5) vm.stack) :=
  ignore_canon (u32shlImm_refines 5)

theorem refines_u32shl_6 : ∀ vm : Vm, 16 ≤ vm.stack.length → (∀ x ∈ vm.stack, x < P) →
    Refines (stackRun Generated.ops_u32shl_6 vm) (sem (.u32shlImm 6) vm.stack) :=
  ignore_canon (u32shlImm_refines 6)

theorem refines_u32shl_8 : ∀ vm : Vm, 16 ≤ vm.stack.length → (∀ x ∈ vm.stack, x < P) →
    Refines (stackRun Generated.ops_u32shl_8 vm) (sem (.u32shlImm 8) vm.stack) :=
  ignore_canon (u32shlImm_refines 8)

theorem refines_u32shl_9 : ∀ vm : Vm, 16 ≤ vm.stack.length → (∀ x ∈ vm.stack, x < P) →
    Refines (stackRun Generated.ops_u32shl_9 vm) (sem (.u32shlImm 9) vm.stack) :=
  ignore_canon (u32shlImm_refines 9)

theorem refines_u32shl_10 : ∀ vm : Vm, 16 ≤ vm.stack.length → (∀ x ∈ vm.stack, x < P) →
    Refines (stackRun Generated.ops_u32shl_10 vm) (sem (.u32shlImm 10) vm.stack) :=
  ignore_canon (u32shlImm_refines 10)

theorem refines_u32shl_12 : ∀ vm : Vm, 16 ≤ vm.stack.length → (∀ x ∈ vm.stack, x < P) →
    Refines (stackRun Generated.ops_u32shl_12 vm) (sem (.u32shlImm 12) vm.stack) :=
  ignore_canon (u32shlImm_refines 12)

theorem refines_u32shl_13 : ∀ vm : Vm, 16 ≤ vm.stack.length → (∀ x ∈ vm.stack, x < P) →
    Refines (stackRun Generated.ops_u32shl_13 vm) (sem (.u32shlImm 13) vm.stack) :=
  ignore_canon (u32shlImm_refines 13)

theorem refines_u32shl_14 : ∀ vm : Vm, 16 ≤ vm.stack.length → (∀ x ∈ vm.stack, x < P) →
    Refines (stackRun Generated.ops_u32shl_14 vm) (sem (.u32shlImm 14) vm.stack) :=
  ignore_canon (u32shlImm_refines 14)

theorem refines_u32shl_16 : ∀ vm : Vm, 16 ≤ vm.stack.length → (∀ x ∈ vm.stack, x < P) →
    Refines (stackRun Generated.ops_u32shl_16 vm) (sem (.u32shlImm 16) vm.stack) :=
  ignore_canon (u32shlImm_refines 16)

theorem refines_u32shl_17 : ∀ vm : Vm, 16 ≤ vm.stack.length → (∀ x ∈ vm.stack, x < P) →
    Refines (stackRun Generated.ops_u32shl_17 vm) (sem (.u32shlImm 17) vm.stack) :=
  ignore_canon (u32shlImm_refines 17)

theorem refines_u32shl_18 : ∀ vm : Vm, 16 ≤ vm.stack.length → (∀ x ∈ vm.stack, x < P) →
    Refines (stackRun Generated.ops_u32shl_18 vm) (sem (.u32shlImm 18) vm.stack) :=
  ignore_canon (u32shlImm_refines 18)

theorem refines_u32shl_20 : ∀ vm : Vm, 16 ≤ vm.stack.length → (∀ x ∈ vm.stack, x < P) →
    Refines (stackRun Generated.ops_u32shl_20 vm) (sem (.u32shlImm 20) vm.stack) :=
  ignore_canon (u32shlImm_refines 20)

theorem refines_u32shl_21 : ∀ vm : Vm, 16 ≤ vm.stack.length → (∀ x ∈ vm.stack, x < P) →
    Refines (stackRun Generated.ops_u32shl_21 vm) (sem (.u32shlImm 21) vm.stack) :=
  ignore_canon (u32shlImm_refines 21)

theorem refines_u32shl_22 : ∀ vm : Vm, 16 ≤ vm.stack.length → (∀ x ∈ vm.stack, x < P) →
    Refines (stackRun Generated.ops_u32shl_22 vm) (sem (.u32shlImm 22) vm.stack) :=
  ignore_canon (u32shlImm_refines 22)

theorem refines_u32shl_24 : ∀ vm : Vm, 16 ≤ vm.stack.length → (∀ x ∈ vm.stack, x < P) →
    Refines (stackRun Generated.ops_u32shl_24 vm) (sem (.u32shlImm 24) vm.stack) :=
  ignore_canon (u32shlImm_refines 24)

theorem refines_u32shl_25 : ∀ vm : Vm, 16 ≤ vm.stack.length → (∀ x ∈ vm.stack, x < P) →
    Refines (stackRun Generated.ops_u32shl_25 vm) (sem (.u32shlImm 25) vm.stack) :=
  ignore_canon (u32shlImm_refines 25)

theorem refines_u32shl_26 : ∀ vm : Vm, 16 ≤ vm.stack.length → (∀ x ∈ vm.stack, x < P) →
    Refines (stackRun Generated.ops_u32shl_26 vm) (sem (.u32shlImm 26) vm.stack) :=
  ignore_canon (u32shlImm_refines 26)

theorem refines_u32shl_28 : ∀ vm : Vm, 16 ≤ vm.stack.length → (∀ x ∈ vm.stack, x < P) →
    Refines (stackRun Generated.ops_u32shl_28 vm) (sem (.u32shlImm 28) vm.stack) :=
  ignore_canon (u32shlImm_refines 28)

theorem refines_u32shl_29 : ∀ vm : Vm, 16 ≤ vm.stack.length → (∀ x ∈ vm.stack, x < P) →
    Refines (stackRun Generated.ops_u32shl_29 vm) (sem (.u32shlImm 29) vm.stack) :=
  ignore_canon (u32shlImm_refines 29)

theorem refines_u32shl_30 : ∀ vm : Vm, 16 ≤ vm.stack.length → (∀ x ∈ vm.stack, x < P) →
    Refines (stackRun Generated.ops_u32shl_30 vm) (sem (.u32shlImm 30) vm.stack) :=
  ignore_canon (u32shlImm_refines 30)

theorem refines_u32shr_0 : ∀ vm : Vm, 16 ≤ vm.stack.length →
    Refines (stackRun Generated.ops_u32shr_0 vm) (sem (.u32shrImm 0) vm.stack) :=
  noop_refines fun a r => by
    show Refines _ (if 0 > 31 then failAny else if a < two32 then .ok (a / 2 ^ 0 :: r) else undef)
    rw [if_neg (by decide), Nat.pow_zero, Nat.div_one]
    exact Refines.ite_undef fun _ => Refines.ok _

theorem refines_u32shr_1 : ∀ vm : Vm, 16 ≤ vm.stack.length →
    Refines (stackRun Generated.ops_u32shr_1 vm) (sem (.u32shrImm 1) vm.stack) :=
  u32shrImm_refines 1

theorem refines_u32shr_2 : ∀ vm : Vm, 16 ≤ vm.stack.length →
    Refines (stackRun Generated.ops_u32shr_2 vm) (sem (.u32shrImm 2) vm.stack) :=
  u32shrImm_refines 2

theorem refines_u32shr_3 : ∀ vm : Vm, 16 ≤ vm.stack.length →
    Refines (stackRun Generated.ops_u32shr_3 vm) (sem (.u32shrImm 3) vm.stack) :=
  u32shrImm_refines 3

theorem refines_u32shr_4 : ∀ vm : Vm, 16 ≤ vm.stack.length →
    Refines (stackRun Generated.ops_u32shr_4 vm) (sem (.u32shrImm 4) vm.stack) :=
  u32shrImm_refines 4

theorem refines_u32shr_5 : ∀ vm : Vm, 16 ≤ vm.stack.length →
    Refines (stackRun Generated.ops_u32shr_5 vm) (sem (.u32shrImm 5) vm.stack) :=
  u32shrImm_refines 5

theorem refines_u32shr_6 : ∀ vm : Vm, 16 ≤ vm.stack.length →
    Refines (stackRun Generated.ops_u32shr_6 vm) (sem (.u32shrImm 6) vm.stack) :=
  u32shrImm_refines 6

theorem refines_u32shr_7 : ∀ vm : Vm, 16 ≤ vm.stack.length →
    Refines (stackRun Generated.ops_u32shr_7 vm) (sem (.u32shrImm 7) vm.stack) :=
  u32shrImm_refines 7

theorem refines_u32shr_8 : ∀ vm : Vm, 16 ≤ vm.stack.length →
    Refines (stackRun Generated.ops_u32shr_8 vm) (sem (.u32shrImm 8) vm.stack) :=
  u32shrImm_refines 8

theorem refines_u32shr_9 : ∀ vm : Vm, 16 ≤ vm.stack.length →
    Refines (stackRun Generated.ops_u32shr_9 vm) (sem (.u32shrImm 9) vm.stack) :=
  u32shrImm_refines 9

theorem refines_u32shr_10 : ∀ vm : Vm, 16 ≤ vm.stack.length →
    Refines (stackRun Generated.ops_u32shr_10 vm) (sem (.u32shrImm 10) vm.stack) :=
  u32shrImm_refines 10

theorem refines_u32shr_11 : ∀ vm : Vm, 16 ≤ vm.stack.length →
    Refines (stackRun Generated.ops_u32shr_11 vm) (sem (.u32shrImm 11) vm.stack) :=
  u32shrImm_refines 11

theorem refines_u32shr_12 : ∀ vm : Vm, 16 ≤ vm.stack.length →
    Refines (stackRun Generated.ops_u32shr_12 vm) (sem (.u32shrImm 12) vm.stack) :=
  u32shrImm_refines 12

theorem refines_u32shr_13 : ∀ vm : Vm, 16 ≤ vm.stack.length →
    Refines (stackRun Generated.ops_u32shr_13 vm) (sem (.u32shrImm 13) vm.stack) :=
  u32shrImm_refines 13

theorem refines_u32shr_14 : ∀ vm : Vm, 16 ≤ vm.stack.length →
    Refines (stackRun Generated.ops_u32shr_14 vm) (sem (.u32shrImm 14) vm.stack) :=
  u32shrImm_refines 14

theorem refines_u32shr_15 : ∀ vm : Vm, 16 ≤ vm.stack.length →
    Refines (stackRun Generated.ops_u32shr_15 vm) (sem (.u32shrImm 15) vm.stack) :=
  u32shrImm_refines 15

theorem refines_u32shr_16 : ∀ vm : Vm, 16 ≤ vm.stack.length →
    Refines (stackRun Generated.ops_u32shr_16 vm) (sem (.u32shrImm 16) vm.stack) :=
  u32shrImm_refines 16

theorem refines_u32shr_17 : ∀ vm : Vm, 16 ≤ vm.stack.length →
    Refines (stackRun Generated.ops_u32shr_17 vm) (sem (.u32shrImm 17) vm.stack) :=
  u32shrImm_refines 17

theorem refines_u32shr_18 : ∀ vm : Vm, 16 ≤ vm.stack.length →
    Refines (stackRun Generated.ops_u32shr_18 vm) (sem (.u32shrImm 18) vm.stack) :=
  u32shrImm_refines 18

theorem refines_u32shr_19 : ∀ vm : Vm, 16 ≤ vm.stack.length →
    Refines (stackRun Generated.ops_u32shr_19 vm) (sem (.u32shrImm 19) vm.stack) :=
  u32shrImm_refines 19

theorem refines_u32shr_20 : ∀ vm : Vm, 16 ≤ vm.stack.length →
    Refines (stackRun Generated.ops_u32shr_20 vm) (sem (.u32shrImm 20) vm.stack) :=
  u32shrImm_refines 20

theorem refines_u32shr_21 : ∀ vm : Vm, 16 ≤ vm.stack.length →
    Refines (stackRun Generated.ops_u32shr_21 vm) (sem (.u32shrImm 21) vm.stack) :=
  u32shrImm_refines 21

theorem refines_u32shr_22 : ∀ vm : Vm, 16 ≤ vm.stack.length →
    Refines (stackRun Generated.ops_u32shr_22 vm) (sem (.u32shrImm 22) vm.stack) :=
  u32shrImm_refines 22

theorem refines_u32shr_23 : ∀ vm : Vm, 16 ≤ vm.stack.length →
    Refines (stackRun Generated.ops_u32shr_23 vm) (sem (.u32shrImm 23) vm.stack) :=
  u32shrImm_refines 23

theorem refines_u32shr_24 : ∀ vm : Vm, 16 ≤ vm.stack.length →
    Refines (stackRun Generated.ops_u32shr_24 vm) (sem (.u32shrImm 24) vm.stack) :=
  u32shrImm_refines 24

theorem refines_u32shr_25 : ∀ vm : Vm, 16 ≤ vm.stack.length →
    Refines (stackRun Generated.ops_u32shr_25 vm) (sem (.u32shrImm 25) vm.stack) :=
  u32shrImm_refines 25

theorem refines_u32shr_26 : ∀ vm : Vm, 16 ≤ vm.stack.length →
    Refines (stackRun Generated.ops_u32shr_26 vm) (sem (.u32shrImm 26) vm.stack) :=
  u32shrImm_refines 26

theorem refines_u32shr_27 : ∀ vm : Vm, 16 ≤ vm.stack.length →
    Refines (stackRun Generated.ops_u32shr_27 vm) (sem (.u32shrImm 27) vm.stack) :=
  u32shrImm_refines 27

theorem refines_u32shr_28 : ∀ vm : Vm, 16 ≤ vm.stack.length →
    Refines (stackRun Generated.ops_u32shr_28 vm) (sem (.u32shrImm 28) vm.stack) :=
  u32shrImm_refines 28

theorem refines_u32shr_29 : ∀ vm : Vm, 16 ≤ vm.stack.length →
    Refines (stackRun Generated.ops_u32shr_29 vm) (sem (.u32shrImm 29) vm.stack) :=
  u32shrImm_refines 29

theorem refines_u32shr_30 : ∀ vm : Vm, 16 ≤ vm.stack.length →
    Refines (stackRun Generated.ops_u32shr_30 vm) (sem (.u32shrImm 30) vm.stack) :=
  u32shrImm_refines 30

theorem refines_u32shr_31 : ∀ vm : Vm, 16 ≤ vm.stack.length →
    Refines (stackRun Generated.ops_u32shr_31 vm) (sem (.u32shrImm 31) vm.stack) :=
  u32shrImm_refines 31

theorem refines_u32xor : ∀ vm : Vm, 16 ≤ vm.stack.length → (∀ x ∈ vm.stack, x < P) →
    Refines (stackRun Generated.ops_u32xor vm) (sem .u32xor vm.stack) :=
  ignore_canon <| refines_of_pure2 fun b a r _ => by
    rw [Generated.ops_u32xor, runPure_cons, pureStep_eq_map]
    show Refines (Except.bind (Except.map _ (if a ≥ two32 then _ else if b ≥ two32 then _ else _)) _) _
    rw [Except.map_ite, Except.map_ite, Except.bind_ite, Except.bind_ite]
    exact Refines.u32guard (Refines.u32guard (Refines.ok _))

end Miden.C05
