/-
  One theorem per instruction form: the operations the real assembler emits
  (Generated/InstrOps.lean, regenerated on every run) refine the instruction reference
  (Spec/Instr.lean) on every stack of depth >= 16, every other component of the machine state being
  arbitrary.  A member of a parameter family is an instance of the family's theorem in
  Lemmas/InstrFam.lean; a one-off form is run on the operand stack with the step rules `rp_*` /
  `rp_*_total` and compared with the reference branch by branch (`Refines.ite`); where both sides
  compute to the same list on sixteen named elements, `refines_of_pure16`.
  Some statements assume canonical stack elements (`∀ x ∈ vm.stack, x < P`); `ignore_canon` marks the
  proofs that do not use it.  This module: field operations, comparisons and assertions.
-/
import Miden.Lemmas.InstrFam
namespace Miden.C05
open Miden.Spec

theorem refines_add : ∀ vm : Vm, 16 ≤ vm.stack.length →
    Refines (stackRun Generated.ops_add vm) (sem .add vm.stack) :=
  refines_of_pure16

theorem refines_add_0 : ∀ vm : Vm, 16 ≤ vm.stack.length → (∀ x ∈ vm.stack, x < P) →
    Refines (stackRun Generated.ops_add_0 vm) (sem (.addImm 0) vm.stack) :=
  noop_refines_canon fun a r ha => by
    show Refines _ (.ok (fadd a 0 :: r))
    rw [fadd_zero ha]
    exact Refines.ok _

theorem refines_add_1 : ∀ vm : Vm, 16 ≤ vm.stack.length →
    Refines (stackRun Generated.ops_add_1 vm) (sem (.addImm 1) vm.stack) :=
  refines_of_pure16

theorem refines_add_2 : ∀ vm : Vm, 16 ≤ vm.stack.length → (∀ x ∈ vm.stack, x < P) →
    Refines (stackRun Generated.ops_add_2 vm) (sem (.addImm 2) vm.stack) :=
  ignore_canon <| refines_of_pure1 fun a r _ => by
    rw [Generated.ops_add_2, rp_incr, rp_incr, runPure_nil, fadd_fadd]
    exact Refines.ok _

theorem refines_add_3 : ∀ vm : Vm, 16 ≤ vm.stack.length →
    Refines (stackRun Generated.ops_add_3 vm) (sem (.addImm 3) vm.stack) :=
  addImm_refines _

theorem refines_add_7 : ∀ vm : Vm, 16 ≤ vm.stack.length →
    Refines (stackRun Generated.ops_add_7 vm) (sem (.addImm 7) vm.stack) :=
  addImm_refines _

theorem refines_add_65536 : ∀ vm : Vm, 16 ≤ vm.stack.length → (∀ x ∈ vm.stack, x < P) →
    Refines (stackRun Generated.ops_add_65536 vm) (sem (.addImm 65536) vm.stack) :=
  ignore_canon (addImm_refines _)

theorem refines_add_4294967296 : ∀ vm : Vm, 16 ≤ vm.stack.length → (∀ x ∈ vm.stack, x < P) →
    Refines (stackRun Generated.ops_add_4294967296 vm) (sem (.addImm 4294967296) vm.stack) :=
  ignore_canon (addImm_refines _)

theorem refines_assert : ∀ vm : Vm, 16 ≤ vm.stack.length →
    Refines (stackRun Generated.ops_assert vm) (sem (.assert 0) vm.stack) :=
  assert_refines 0

theorem refines_assert_err_7 : ∀ vm : Vm, 16 ≤ vm.stack.length →
    Refines (stackRun Generated.ops_assert_err_7 vm) (sem (.assert 7) vm.stack) :=
  assert_refines 7

theorem refines_assert_eq : ∀ vm : Vm, 16 ≤ vm.stack.length →
    Refines (stackRun Generated.ops_assert_eq vm) (sem (.assertEq 0) vm.stack) :=
  assertEq_refines 0

theorem refines_assert_eq_err_9 : ∀ vm : Vm, 16 ≤ vm.stack.length →
    Refines (stackRun Generated.ops_assert_eq_err_9 vm) (sem (.assertEq 9) vm.stack) :=
  assertEq_refines 9

theorem refines_assertz : ∀ vm : Vm, 16 ≤ vm.stack.length →
    Refines (stackRun Generated.ops_assertz vm) (sem (.assertz 0) vm.stack) :=
  assertz_refines 0

theorem refines_assertz_err_8 : ∀ vm : Vm, 16 ≤ vm.stack.length →
    Refines (stackRun Generated.ops_assertz_err_8 vm) (sem (.assertz 8) vm.stack) :=
  assertz_refines 8

theorem refines_div : ∀ vm : Vm, 16 ≤ vm.stack.length →
    Refines (stackRun Generated.ops_div vm) (sem .div vm.stack) :=
  refines_of_pure2 fun b a r _ => by
    rw [Generated.ops_div, rp_inv_total]
    refine Refines.ite (fun _ => Refines.fail _) fun _ => ?_
    rw [rp_mul, runPure_nil]
    exact Refines.ok _

theorem refines_eq : ∀ vm : Vm, 16 ≤ vm.stack.length →
    Refines (stackRun Generated.ops_eq vm) (sem .eq vm.stack) :=
  refines_of_pure2 fun b a r _ => by
    rw [Generated.ops_eq, rp_eq, runPure_nil, ← b2n_decide]
    exact Refines.ok _

theorem refines_eq_0 : ∀ vm : Vm, 16 ≤ vm.stack.length →
    Refines (stackRun Generated.ops_eq_0 vm) (sem (.eqImm 0) vm.stack) :=
  refines_of_pure1 fun a r _ => by
    rw [Generated.ops_eq_0, rp_eqz, runPure_nil, ← b2n_decide]
    exact Refines.ok _

theorem refines_eq_1 : ∀ vm : Vm, 16 ≤ vm.stack.length →
    Refines (stackRun Generated.ops_eq_1 vm) (sem (.eqImm 1) vm.stack) :=
  eqImm_refines _

theorem refines_eq_2 : ∀ vm : Vm, 16 ≤ vm.stack.length →
    Refines (stackRun Generated.ops_eq_2 vm) (sem (.eqImm 2) vm.stack) :=
  eqImm_refines _

theorem refines_eq_3 : ∀ vm : Vm, 16 ≤ vm.stack.length →
    Refines (stackRun Generated.ops_eq_3 vm) (sem (.eqImm 3) vm.stack) :=
  eqImm_refines _

theorem refines_eq_7 : ∀ vm : Vm, 16 ≤ vm.stack.length →
    Refines (stackRun Generated.ops_eq_7 vm) (sem (.eqImm 7) vm.stack) :=
  eqImm_refines _

theorem refines_eq_65536 : ∀ vm : Vm, 16 ≤ vm.stack.length →
    Refines (stackRun Generated.ops_eq_65536 vm) (sem (.eqImm 65536) vm.stack) :=
  eqImm_refines _

theorem refines_eq_4294967295 : ∀ vm : Vm, 16 ≤ vm.stack.length →
    Refines (stackRun Generated.ops_eq_4294967295 vm) (sem (.eqImm 4294967295) vm.stack) :=
  eqImm_refines _

theorem refines_eq_4294967296 : ∀ vm : Vm, 16 ≤ vm.stack.length →
    Refines (stackRun Generated.ops_eq_4294967296 vm) (sem (.eqImm 4294967296) vm.stack) :=
  eqImm_refines _

theorem refines_eq_9223372036854775813 : ∀ vm : Vm, 16 ≤ vm.stack.length →
    Refines (stackRun Generated.ops_eq_9223372036854775813 vm) (sem (.eqImm 9223372036854775813) vm.stack) :=
  eqImm_refines _

theorem refines_eq_18446744069414584320 : ∀ vm : Vm, 16 ≤ vm.stack.length →
    Refines (stackRun Generated.ops_eq_18446744069414584320 vm) (sem (.eqImm 18446744069414584320) vm.stack) :=
  eqImm_refines _

theorem refines_exp_0 : ∀ vm : Vm, 16 ≤ vm.stack.length → (∀ x ∈ vm.stack, x < P) →
    Refines (stackRun Generated.ops_exp_0 vm) (sem (.expImm 0) vm.stack) :=
  ignore_canon <| refines_of_pure1 fun a r _ => by
    rw [Generated.ops_exp_0, rp_drop, rp_pad, rp_incr, runPure_nil]
    exact Refines.ok _

theorem refines_ext2add : ∀ vm : Vm, 16 ≤ vm.stack.length → (∀ x ∈ vm.stack, x < P) →
    Refines (stackRun Generated.ops_ext2add vm) (sem .ext2add vm.stack) :=
  ignore_canon <| refines_of_pure4 fun b1 b0 a1 a0 r _ => by
    rw [Generated.ops_ext2add, rp_swap, rp_movup3, rp_add, padN_cons, padN_cons, padN_cons,
      rp_movdn2, rp_add, runPure_nil, fadd_comm b0 a0]
    show Refines _ (.ok (padN 16 (_ :: _ :: r)))
    rw [padN_cons, padN_cons, padN_cons, padN_cons, padN_padN]
    exact Refines.ok _

theorem refines_ext2neg : ∀ vm : Vm, 16 ≤ vm.stack.length →
    Refines (stackRun Generated.ops_ext2neg vm) (sem .ext2neg vm.stack) :=
  refines_of_pure16

theorem refines_ext2sub : ∀ vm : Vm, 16 ≤ vm.stack.length → (∀ x ∈ vm.stack, x < P) →
    Refines (stackRun Generated.ops_ext2sub vm) (sem .ext2sub vm.stack) :=
  ignore_canon <| refines_of_pure4 fun b1 b0 a1 a0 r _ => by
    rw [Generated.ops_ext2sub, rp_neg, rp_swap, rp_neg, rp_movup3, rp_add, padN_cons, padN_cons,
      padN_cons, rp_movdn2, rp_add, runPure_nil, fadd_comm (fneg b0) a0, fadd_fneg, fadd_fneg]
    show Refines _ (.ok (padN 16 (_ :: _ :: r)))
    rw [padN_cons, padN_cons, padN_cons, padN_cons, padN_padN]
    exact Refines.ok _

theorem refines_inv : ∀ vm : Vm, 16 ≤ vm.stack.length →
    Refines (stackRun Generated.ops_inv vm) (sem .inv vm.stack) :=
  refines_of_pure1 fun a r _ => by
    rw [Generated.ops_inv, rp_inv_total]
    exact Refines.ite (fun _ => Refines.fail _) (fun _ => Refines.ok _)

theorem refines_mul : ∀ vm : Vm, 16 ≤ vm.stack.length →
    Refines (stackRun Generated.ops_mul vm) (sem .mul vm.stack) :=
  refines_of_pure16

theorem refines_mul_0 : ∀ vm : Vm, 16 ≤ vm.stack.length →
    Refines (stackRun Generated.ops_mul_0 vm) (sem (.mulImm 0) vm.stack) :=
  refines_of_pure16

theorem refines_mul_1 : ∀ vm : Vm, 16 ≤ vm.stack.length → (∀ x ∈ vm.stack, x < P) →
    Refines (stackRun Generated.ops_mul_1 vm) (sem (.mulImm 1) vm.stack) :=
  noop_refines_canon fun a r ha => by
    show Refines _ (.ok (fmul a 1 :: r))
    rw [fmul_one ha]
    exact Refines.ok _

theorem refines_mul_2 : ∀ vm : Vm, 16 ≤ vm.stack.length →
    Refines (stackRun Generated.ops_mul_2 vm) (sem (.mulImm 2) vm.stack) :=
  mulImm_refines _

theorem refines_mul_3 : ∀ vm : Vm, 16 ≤ vm.stack.length →
    Refines (stackRun Generated.ops_mul_3 vm) (sem (.mulImm 3) vm.stack) :=
  mulImm_refines _

theorem refines_mul_7 : ∀ vm : Vm, 16 ≤ vm.stack.length →
    Refines (stackRun Generated.ops_mul_7 vm) (sem (.mulImm 7) vm.stack) :=
  mulImm_refines _

theorem refines_mul_65536 : ∀ vm : Vm, 16 ≤ vm.stack.length → (∀ x ∈ vm.stack, x < P) →
    Refines (stackRun Generated.ops_mul_65536 vm) (sem (.mulImm 65536) vm.stack) :=
  ignore_canon (mulImm_refines _)

theorem refines_mul_4294967296 : ∀ vm : Vm, 16 ≤ vm.stack.length → (∀ x ∈ vm.stack, x < P) →
    Refines (stackRun Generated.ops_mul_4294967296 vm) (sem (.mulImm 4294967296) vm.stack) :=
  ignore_canon (mulImm_refines _)

theorem refines_mul_9223372036854775813 : ∀ vm : Vm, 16 ≤ vm.stack.length → (∀ x ∈ vm.stack, x < P) →
    Refines (stackRun Generated.ops_mul_9223372036854775813 vm) (sem (.mulImm 9223372036854775813) vm.stack) :=
  ignore_canon (mulImm_refines _)

theorem refines_neg : ∀ vm : Vm, 16 ≤ vm.stack.length →
    Refines (stackRun Generated.ops_neg vm) (sem .neg vm.stack) :=
  refines_of_pure16

theorem refines_neq : ∀ vm : Vm, 16 ≤ vm.stack.length →
    Refines (stackRun Generated.ops_neq vm) (sem .neq vm.stack) :=
  refines_of_pure2 fun b a r _ => by
    rw [Generated.ops_neq, rp_eq, padN_cons, rp_not_ite, runPure_nil]
    exact Refines.ok_pad_cons _ r

theorem refines_neq_0 : ∀ vm : Vm, 16 ≤ vm.stack.length →
    Refines (stackRun Generated.ops_neq_0 vm) (sem (.neqImm 0) vm.stack) :=
  refines_of_pure1 fun a r _ => by
    rw [Generated.ops_neq_0, rp_eqz, rp_not_ite, runPure_nil]
    exact Refines.ok _

theorem refines_neq_1 : ∀ vm : Vm, 16 ≤ vm.stack.length →
    Refines (stackRun Generated.ops_neq_1 vm) (sem (.neqImm 1) vm.stack) :=
  neqImm_refines _

theorem refines_neq_2 : ∀ vm : Vm, 16 ≤ vm.stack.length →
    Refines (stackRun Generated.ops_neq_2 vm) (sem (.neqImm 2) vm.stack) :=
  neqImm_refines _

theorem refines_neq_3 : ∀ vm : Vm, 16 ≤ vm.stack.length →
    Refines (stackRun Generated.ops_neq_3 vm) (sem (.neqImm 3) vm.stack) :=
  neqImm_refines _

theorem refines_neq_7 : ∀ vm : Vm, 16 ≤ vm.stack.length →
    Refines (stackRun Generated.ops_neq_7 vm) (sem (.neqImm 7) vm.stack) :=
  neqImm_refines _

theorem refines_neq_65536 : ∀ vm : Vm, 16 ≤ vm.stack.length →
    Refines (stackRun Generated.ops_neq_65536 vm) (sem (.neqImm 65536) vm.stack) :=
  neqImm_refines _

theorem refines_neq_4294967295 : ∀ vm : Vm, 16 ≤ vm.stack.length →
    Refines (stackRun Generated.ops_neq_4294967295 vm) (sem (.neqImm 4294967295) vm.stack) :=
  neqImm_refines _

theorem refines_neq_4294967296 : ∀ vm : Vm, 16 ≤ vm.stack.length →
    Refines (stackRun Generated.ops_neq_4294967296 vm) (sem (.neqImm 4294967296) vm.stack) :=
  neqImm_refines _

theorem refines_neq_9223372036854775813 : ∀ vm : Vm, 16 ≤ vm.stack.length →
    Refines (stackRun Generated.ops_neq_9223372036854775813 vm) (sem (.neqImm 9223372036854775813) vm.stack) :=
  neqImm_refines _

theorem refines_neq_18446744069414584320 : ∀ vm : Vm, 16 ≤ vm.stack.length →
    Refines (stackRun Generated.ops_neq_18446744069414584320 vm) (sem (.neqImm 18446744069414584320) vm.stack) :=
  neqImm_refines _

theorem refines_not : ∀ vm : Vm, 16 ≤ vm.stack.length →
    Refines (stackRun Generated.ops_not vm) (sem .not vm.stack) :=
  refines_of_pure1 fun a r _ => by
    rw [Generated.ops_not, rp_not_total]
    exact Refines.ite (fun _ => Refines.fail _) (fun _ => Refines.ok _)

theorem refines_sub : ∀ vm : Vm, 16 ≤ vm.stack.length →
    Refines (stackRun Generated.ops_sub vm) (sem .sub vm.stack) :=
  refines_of_pure2 fun b a r _ => by
    rw [Generated.ops_sub, rp_neg, rp_add, runPure_nil, fadd_fneg]
    exact Refines.ok _

theorem refines_sub_0 : ∀ vm : Vm, 16 ≤ vm.stack.length → (∀ x ∈ vm.stack, x < P) →
    Refines (stackRun Generated.ops_sub_0 vm) (sem (.subImm 0) vm.stack) :=
  noop_refines_canon fun a r ha => by
    show Refines _ (.ok (fsub a 0 :: r))
    rw [fsub_zero ha]
    exact Refines.ok _

theorem refines_sub_1 : ∀ vm : Vm, 16 ≤ vm.stack.length → (∀ x ∈ vm.stack, x < P) →
    Refines (stackRun Generated.ops_sub_1 vm) (sem (.subImm 1) vm.stack) :=
  ignore_canon (subImm_refines _ _ rfl)

theorem refines_sub_3 : ∀ vm : Vm, 16 ≤ vm.stack.length → (∀ x ∈ vm.stack, x < P) →
    Refines (stackRun Generated.ops_sub_3 vm) (sem (.subImm 3) vm.stack) :=
  ignore_canon (subImm_refines _ _ rfl)

theorem refines_sub_7 : ∀ vm : Vm, 16 ≤ vm.stack.length → (∀ x ∈ vm.stack, x < P) →
    Refines (stackRun Generated.ops_sub_7 vm) (sem (.subImm 7) vm.stack) :=
  ignore_canon (subImm_refines _ _ rfl)

theorem refines_sub_65536 : ∀ vm : Vm, 16 ≤ vm.stack.length → (∀ x ∈ vm.stack, x < P) →
    Refines (stackRun Generated.ops_sub_65536 vm) (sem (.subImm 65536) vm.stack) :=
  ignore_canon (subImm_refines _ _ rfl)

theorem refines_sub_4294967296 : ∀ vm : Vm, 16 ≤ vm.stack.length → (∀ x ∈ vm.stack, x < P) →
    Refines (stackRun Generated.ops_sub_4294967296 vm) (sem (.subImm 4294967296) vm.stack) :=
  ignore_canon (subImm_refines _ _ rfl)

theorem refines_sub_9223372036854775813 : ∀ vm : Vm, 16 ≤ vm.stack.length → (∀ x ∈ vm.stack, x < P) →
    Refines (stackRun Generated.ops_sub_9223372036854775813 vm) (sem (.subImm 9223372036854775813) vm.stack) :=
  ignore_canon (subImm_refines _ _ rfl)

theorem refines_sub_18446744069414584320 : ∀ vm : Vm, 16 ≤ vm.stack.length → (∀ x ∈ vm.stack, x < P) →
    Refines (stackRun Generated.ops_sub_18446744069414584320 vm) (sem (.subImm 18446744069414584320) vm.stack) :=
  ignore_canon (subImm_refines _ _ rfl)

end Miden.C05
