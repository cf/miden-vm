/-
  Refinement theorems (as in C05Auto/Field.lean): stack manipulation, conditional moves, `push` and `sdepth`.
-/
import Miden.Lemmas.InstrFam
namespace Miden.C05
open Miden.Spec

theorem refines_cdrop : ∀ vm : Vm, 16 ≤ vm.stack.length →
    Refines (stackRun Generated.ops_cdrop vm) (sem .cdrop vm.stack) :=
  refines_of_pure2 fun c b s hs => by
    obtain ⟨a, r, rfl, _⟩ := exists_cons_of_le hs
    rw [Generated.ops_cdrop, rp_cswap_total]
    refine Refines.ite (fun _ => ?_) fun _ => Refines.ite (fun _ => ?_) (fun _ => Refines.fail _)
    all_goals
      rw [padN_cons, rp_drop, runPure_nil, padN_padN]
      exact Refines.ok _

theorem refines_cdropw : ∀ vm : Vm, 16 ≤ vm.stack.length →
    Refines (stackRun Generated.ops_cdropw vm) (sem .cdropw vm.stack) :=
  refines_of_pure9 fun c b0 b1 b2 b3 a0 a1 a2 a3 r _ => by
    rw [Generated.ops_cdropw, rp_cswapw_total]
    refine Refines.ite (fun _ => ?_) fun _ => Refines.ite (fun _ => ?_) (fun _ => Refines.fail _)
    all_goals
      rw [rp_drop_padN, rp_drop_padN, rp_drop_padN, rp_drop_padN, runPure_nil]
      exact Refines.ok _

theorem refines_cswap : ∀ vm : Vm, 16 ≤ vm.stack.length →
    Refines (stackRun Generated.ops_cswap vm) (sem .cswap vm.stack) :=
  refines_of_pure2 fun c b s hs => by
    obtain ⟨a, r, rfl, _⟩ := exists_cons_of_le hs
    rw [Generated.ops_cswap, rp_cswap_total]
    exact Refines.ite (fun _ => Refines.ok _) fun _ =>
      Refines.ite (fun _ => Refines.ok _) (fun _ => Refines.fail _)

theorem refines_cswapw : ∀ vm : Vm, 16 ≤ vm.stack.length →
    Refines (stackRun Generated.ops_cswapw vm) (sem .cswapw vm.stack) :=
  refines_of_pure9 fun c b0 b1 b2 b3 a0 a1 a2 a3 r _ => by
    rw [Generated.ops_cswapw, rp_cswapw_total]
    exact Refines.ite (fun _ => Refines.ok _) fun _ =>
      Refines.ite (fun _ => Refines.ok _) (fun _ => Refines.fail _)

theorem refines_drop : ∀ vm : Vm, 16 ≤ vm.stack.length →
    Refines (stackRun Generated.ops_drop vm) (sem .drop vm.stack) :=
  refines_of_pure16

theorem refines_dropw : ∀ vm : Vm, 16 ≤ vm.stack.length →
    Refines (stackRun Generated.ops_dropw vm) (sem .dropw vm.stack) :=
  refines_of_pure4 fun d c b a r _ => by
    rw [Generated.ops_dropw, rp_drop, rp_drop_padN, rp_drop_padN, rp_drop_padN, runPure_nil]
    exact Refines.ok _

theorem refines_dup : ∀ vm : Vm, 16 ≤ vm.stack.length →
    Refines (stackRun Generated.ops_dup vm) (sem (.dup 0) vm.stack) :=
  dup_native_refines

theorem refines_dup_0 : ∀ vm : Vm, 16 ≤ vm.stack.length →
    Refines (stackRun Generated.ops_dup_0 vm) (sem (.dup 0) vm.stack) :=
  dup_native_refines

theorem refines_dup_1 : ∀ vm : Vm, 16 ≤ vm.stack.length →
    Refines (stackRun Generated.ops_dup_1 vm) (sem (.dup 1) vm.stack) :=
  dup_native_refines

theorem refines_dup_2 : ∀ vm : Vm, 16 ≤ vm.stack.length →
    Refines (stackRun Generated.ops_dup_2 vm) (sem (.dup 2) vm.stack) :=
  dup_native_refines

theorem refines_dup_3 : ∀ vm : Vm, 16 ≤ vm.stack.length →
    Refines (stackRun Generated.ops_dup_3 vm) (sem (.dup 3) vm.stack) :=
  dup_native_refines

theorem refines_dup_4 : ∀ vm : Vm, 16 ≤ vm.stack.length →
    Refines (stackRun Generated.ops_dup_4 vm) (sem (.dup 4) vm.stack) :=
  dup_native_refines

theorem refines_dup_5 : ∀ vm : Vm, 16 ≤ vm.stack.length →
    Refines (stackRun Generated.ops_dup_5 vm) (sem (.dup 5) vm.stack) :=
  dup_native_refines

theorem refines_dup_6 : ∀ vm : Vm, 16 ≤ vm.stack.length →
    Refines (stackRun Generated.ops_dup_6 vm) (sem (.dup 6) vm.stack) :=
  dup_native_refines

theorem refines_dup_7 : ∀ vm : Vm, 16 ≤ vm.stack.length →
    Refines (stackRun Generated.ops_dup_7 vm) (sem (.dup 7) vm.stack) :=
  dup_native_refines

theorem refines_dup_8 : ∀ vm : Vm, 16 ≤ vm.stack.length → (∀ x ∈ vm.stack, x < P) →
    Refines (stackRun Generated.ops_dup_8 vm) (sem (.dup 8) vm.stack) :=
  dupAdd_refines

theorem refines_dup_9 : ∀ vm : Vm, 16 ≤ vm.stack.length →
    Refines (stackRun Generated.ops_dup_9 vm) (sem (.dup 9) vm.stack) :=
  dup_native_refines

theorem refines_dup_10 : ∀ vm : Vm, 16 ≤ vm.stack.length → (∀ x ∈ vm.stack, x < P) →
    Refines (stackRun Generated.ops_dup_10 vm) (sem (.dup 10) vm.stack) :=
  dupAdd_refines

theorem refines_dup_11 : ∀ vm : Vm, 16 ≤ vm.stack.length →
    Refines (stackRun Generated.ops_dup_11 vm) (sem (.dup 11) vm.stack) :=
  dup_native_refines

theorem refines_dup_12 : ∀ vm : Vm, 16 ≤ vm.stack.length → (∀ x ∈ vm.stack, x < P) →
    Refines (stackRun Generated.ops_dup_12 vm) (sem (.dup 12) vm.stack) :=
  dupAdd_refines

theorem refines_dup_13 : ∀ vm : Vm, 16 ≤ vm.stack.length → (∀ x ∈ vm.stack, x < P) →
    Refines (stackRun Generated.ops_dup_13 vm) (sem (.dup 13) vm.stack) :=
  ignore_canon dup_native_refines

theorem refines_dup_14 : ∀ vm : Vm, 16 ≤ vm.stack.length → (∀ x ∈ vm.stack, x < P) →
    Refines (stackRun Generated.ops_dup_14 vm) (sem (.dup 14) vm.stack) :=
  dupAdd_refines

theorem refines_dup_15 : ∀ vm : Vm, 16 ≤ vm.stack.length →
    Refines (stackRun Generated.ops_dup_15 vm) (sem (.dup 15) vm.stack) :=
  dup_native_refines

theorem refines_dupw : ∀ vm : Vm, 16 ≤ vm.stack.length →
    Refines (stackRun Generated.ops_dupw vm) (sem (.dupw 0) vm.stack) :=
  refines_of_pure16

theorem refines_dupw_0 : ∀ vm : Vm, 16 ≤ vm.stack.length →
    Refines (stackRun Generated.ops_dupw_0 vm) (sem (.dupw 0) vm.stack) :=
  refines_of_pure16

theorem refines_dupw_1 : ∀ vm : Vm, 16 ≤ vm.stack.length →
    Refines (stackRun Generated.ops_dupw_1 vm) (sem (.dupw 1) vm.stack) :=
  refines_of_pure16

theorem refines_dupw_2 : ∀ vm : Vm, 16 ≤ vm.stack.length →
    Refines (stackRun Generated.ops_dupw_2 vm) (sem (.dupw 2) vm.stack) :=
  refines_of_pure16

theorem refines_dupw_3 : ∀ vm : Vm, 16 ≤ vm.stack.length →
    Refines (stackRun Generated.ops_dupw_3 vm) (sem (.dupw 3) vm.stack) :=
  refines_of_pure16

theorem refines_movdn_2 : ∀ vm : Vm, 16 ≤ vm.stack.length →
    Refines (stackRun Generated.ops_movdn_2 vm) (sem (.movdn 2) vm.stack) :=
  movdn_native_refines

theorem refines_movdn_3 : ∀ vm : Vm, 16 ≤ vm.stack.length →
    Refines (stackRun Generated.ops_movdn_3 vm) (sem (.movdn 3) vm.stack) :=
  movdn_native_refines

theorem refines_movdn_4 : ∀ vm : Vm, 16 ≤ vm.stack.length →
    Refines (stackRun Generated.ops_movdn_4 vm) (sem (.movdn 4) vm.stack) :=
  movdn_native_refines

theorem refines_movdn_5 : ∀ vm : Vm, 16 ≤ vm.stack.length →
    Refines (stackRun Generated.ops_movdn_5 vm) (sem (.movdn 5) vm.stack) :=
  movdn_native_refines

theorem refines_movdn_6 : ∀ vm : Vm, 16 ≤ vm.stack.length →
    Refines (stackRun Generated.ops_movdn_6 vm) (sem (.movdn 6) vm.stack) :=
  movdn_native_refines

theorem refines_movdn_7 : ∀ vm : Vm, 16 ≤ vm.stack.length →
    Refines (stackRun Generated.ops_movdn_7 vm) (sem (.movdn 7) vm.stack) :=
  movdn_native_refines

theorem refines_movdn_8 : ∀ vm : Vm, 16 ≤ vm.stack.length →
    Refines (stackRun Generated.ops_movdn_8 vm) (sem (.movdn 8) vm.stack) :=
  movdn_native_refines

theorem refines_movdn_9 : ∀ vm : Vm, 16 ≤ vm.stack.length →
    Refines (stackRun Generated.ops_movdn_9 vm) (sem (.movdn 9) vm.stack) :=
  refines_of_pure16

theorem refines_movdn_10 : ∀ vm : Vm, 16 ≤ vm.stack.length →
    Refines (stackRun Generated.ops_movdn_10 vm) (sem (.movdn 10) vm.stack) :=
  refines_of_pure16

theorem refines_movdn_11 : ∀ vm : Vm, 16 ≤ vm.stack.length →
    Refines (stackRun Generated.ops_movdn_11 vm) (sem (.movdn 11) vm.stack) :=
  refines_of_pure16

theorem refines_movdn_12 : ∀ vm : Vm, 16 ≤ vm.stack.length →
    Refines (stackRun Generated.ops_movdn_12 vm) (sem (.movdn 12) vm.stack) :=
  refines_of_pure16

theorem refines_movdn_13 : ∀ vm : Vm, 16 ≤ vm.stack.length →
    Refines (stackRun Generated.ops_movdn_13 vm) (sem (.movdn 13) vm.stack) :=
  refines_of_pure16

theorem refines_movdn_14 : ∀ vm : Vm, 16 ≤ vm.stack.length →
    Refines (stackRun Generated.ops_movdn_14 vm) (sem (.movdn 14) vm.stack) :=
  refines_of_pure16

theorem refines_movdn_15 : ∀ vm : Vm, 16 ≤ vm.stack.length →
    Refines (stackRun Generated.ops_movdn_15 vm) (sem (.movdn 15) vm.stack) :=
  refines_of_pure16

theorem refines_movdnw_2 : ∀ vm : Vm, 16 ≤ vm.stack.length →
    Refines (stackRun Generated.ops_movdnw_2 vm) (sem (.movdnw 2) vm.stack) :=
  refines_of_pure16

theorem refines_movdnw_3 : ∀ vm : Vm, 16 ≤ vm.stack.length →
    Refines (stackRun Generated.ops_movdnw_3 vm) (sem (.movdnw 3) vm.stack) :=
  refines_of_pure16

theorem refines_movup_2 : ∀ vm : Vm, 16 ≤ vm.stack.length →
    Refines (stackRun Generated.ops_movup_2 vm) (sem (.movup 2) vm.stack) :=
  movup_native_refines

theorem refines_movup_3 : ∀ vm : Vm, 16 ≤ vm.stack.length →
    Refines (stackRun Generated.ops_movup_3 vm) (sem (.movup 3) vm.stack) :=
  movup_native_refines

theorem refines_movup_4 : ∀ vm : Vm, 16 ≤ vm.stack.length →
    Refines (stackRun Generated.ops_movup_4 vm) (sem (.movup 4) vm.stack) :=
  movup_native_refines

theorem refines_movup_5 : ∀ vm : Vm, 16 ≤ vm.stack.length →
    Refines (stackRun Generated.ops_movup_5 vm) (sem (.movup 5) vm.stack) :=
  movup_native_refines

theorem refines_movup_6 : ∀ vm : Vm, 16 ≤ vm.stack.length →
    Refines (stackRun Generated.ops_movup_6 vm) (sem (.movup 6) vm.stack) :=
  movup_native_refines

theorem refines_movup_7 : ∀ vm : Vm, 16 ≤ vm.stack.length →
    Refines (stackRun Generated.ops_movup_7 vm) (sem (.movup 7) vm.stack) :=
  movup_native_refines

theorem refines_movup_8 : ∀ vm : Vm, 16 ≤ vm.stack.length →
    Refines (stackRun Generated.ops_movup_8 vm) (sem (.movup 8) vm.stack) :=
  movup_native_refines

theorem refines_movup_9 : ∀ vm : Vm, 16 ≤ vm.stack.length →
    Refines (stackRun Generated.ops_movup_9 vm) (sem (.movup 9) vm.stack) :=
  refines_of_pure16

theorem refines_movup_10 : ∀ vm : Vm, 16 ≤ vm.stack.length →
    Refines (stackRun Generated.ops_movup_10 vm) (sem (.movup 10) vm.stack) :=
  refines_of_pure16

theorem refines_movup_11 : ∀ vm : Vm, 16 ≤ vm.stack.length →
    Refines (stackRun Generated.ops_movup_11 vm) (sem (.movup 11) vm.stack) :=
  refines_of_pure16

theorem refines_movup_12 : ∀ vm : Vm, 16 ≤ vm.stack.length →
    Refines (stackRun Generated.ops_movup_12 vm) (sem (.movup 12) vm.stack) :=
  refines_of_pure16

theorem refines_movup_13 : ∀ vm : Vm, 16 ≤ vm.stack.length →
    Refines (stackRun Generated.ops_movup_13 vm) (sem (.movup 13) vm.stack) :=
  refines_of_pure16

theorem refines_movup_14 : ∀ vm : Vm, 16 ≤ vm.stack.length →
    Refines (stackRun Generated.ops_movup_14 vm) (sem (.movup 14) vm.stack) :=
  refines_of_pure16

theorem refines_movup_15 : ∀ vm : Vm, 16 ≤ vm.stack.length →
    Refines (stackRun Generated.ops_movup_15 vm) (sem (.movup 15) vm.stack) :=
  refines_of_pure16

theorem refines_movupw_2 : ∀ vm : Vm, 16 ≤ vm.stack.length →
    Refines (stackRun Generated.ops_movupw_2 vm) (sem (.movupw 2) vm.stack) :=
  refines_of_pure16

theorem refines_movupw_3 : ∀ vm : Vm, 16 ≤ vm.stack.length →
    Refines (stackRun Generated.ops_movupw_3 vm) (sem (.movupw 3) vm.stack) :=
  refines_of_pure16

theorem refines_padw : ∀ vm : Vm, 16 ≤ vm.stack.length →
    Refines (stackRun Generated.ops_padw vm) (sem .padw vm.stack) :=
  refines_of_pure16

theorem refines_push_0 : ∀ vm : Vm, 16 ≤ vm.stack.length →
    Refines (stackRun Generated.ops_push_0 vm) (sem (.push [0]) vm.stack) :=
  push_refines [0]

theorem refines_push_1 : ∀ vm : Vm, 16 ≤ vm.stack.length → (∀ x ∈ vm.stack, x < P) →
    Refines (stackRun Generated.ops_push_1 vm) (sem (.push [1]) vm.stack) :=
  ignore_canon (push_refines [1])

theorem refines_push_1_2 : ∀ vm : Vm, 16 ≤ vm.stack.length → (∀ x ∈ vm.stack, x < P) →
    Refines (stackRun Generated.ops_push_1_2 vm) (sem (.push [1, 2]) vm.stack) :=
  ignore_canon (push_refines [1, 2])

theorem refines_push_1_2_3_4 : ∀ vm : Vm, 16 ≤ vm.stack.length → (∀ x ∈ vm.stack, x < P) →
    Refines (stackRun Generated.ops_push_1_2_3_4 vm) (sem (.push [1, 2, 3, 4]) vm.stack) :=
  ignore_canon (push_refines [1, 2, 3, 4])

theorem refines_push_2 : ∀ vm : Vm, 16 ≤ vm.stack.length →
    Refines (stackRun Generated.ops_push_2 vm) (sem (.push [2]) vm.stack) :=
  push_refines [2]

theorem refines_push_3 : ∀ vm : Vm, 16 ≤ vm.stack.length →
    Refines (stackRun Generated.ops_push_3 vm) (sem (.push [3]) vm.stack) :=
  push_refines [3]

theorem refines_push_7 : ∀ vm : Vm, 16 ≤ vm.stack.length →
    Refines (stackRun Generated.ops_push_7 vm) (sem (.push [7]) vm.stack) :=
  push_refines [7]

theorem refines_push_65536 : ∀ vm : Vm, 16 ≤ vm.stack.length →
    Refines (stackRun Generated.ops_push_65536 vm) (sem (.push [65536]) vm.stack) :=
  push_refines [65536]

theorem refines_push_4294967295 : ∀ vm : Vm, 16 ≤ vm.stack.length →
    Refines (stackRun Generated.ops_push_4294967295 vm) (sem (.push [4294967295]) vm.stack) :=
  push_refines [4294967295]

theorem refines_push_4294967296 : ∀ vm : Vm, 16 ≤ vm.stack.length →
    Refines (stackRun Generated.ops_push_4294967296 vm) (sem (.push [4294967296]) vm.stack) :=
  push_refines [4294967296]

theorem refines_push_9223372036854775813 : ∀ vm : Vm, 16 ≤ vm.stack.length →
    Refines (stackRun Generated.ops_push_9223372036854775813 vm) (sem (.push [9223372036854775813]) vm.stack) :=
  push_refines [9223372036854775813]

theorem refines_push_18446744069414584320 : ∀ vm : Vm, 16 ≤ vm.stack.length →
    Refines (stackRun Generated.ops_push_18446744069414584320 vm) (sem (.push [18446744069414584320]) vm.stack) :=
  push_refines [18446744069414584320]

theorem refines_push_18446744069414584320_0_4294967296_1_2_3_4_5_6_7_8_9_10_11_12_13 : ∀ vm : Vm, 16 ≤ vm.stack.length → (∀ x ∈ vm.stack, x < P) →
    Refines (stackRun Generated.ops_push_18446744069414584320_0_4294967296_1_2_3_4_5_6_7_8_9_10_11_12_13 vm) (sem (.push [18446744069414584320, 0, 4294967296, 1, 2, 3, 4, 5, 6, 7, 8, 9, 10, 11, 12, 13]) vm.stack) :=
  ignore_canon (push_refines [18446744069414584320, 0, 4294967296, 1, 2, 3, 4, 5, 6, 7, 8, 9, 10, 11, 12, 13])

theorem refines_sdepth : ∀ vm : Vm, 16 ≤ vm.stack.length →
    Refines (stackRun Generated.ops_sdepth vm) (sem .sdepth vm.stack) :=
  refines_of_pure16

theorem refines_swap : ∀ vm : Vm, 16 ≤ vm.stack.length →
    Refines (stackRun Generated.ops_swap vm) (sem (.swap 1) vm.stack) :=
  refines_of_pure16

theorem refines_swap_1 : ∀ vm : Vm, 16 ≤ vm.stack.length →
    Refines (stackRun Generated.ops_swap_1 vm) (sem (.swap 1) vm.stack) :=
  refines_of_pure16

theorem refines_swap_2 : ∀ vm : Vm, 16 ≤ vm.stack.length →
    Refines (stackRun Generated.ops_swap_2 vm) (sem (.swap 2) vm.stack) :=
  refines_of_pure16

theorem refines_swap_3 : ∀ vm : Vm, 16 ≤ vm.stack.length →
    Refines (stackRun Generated.ops_swap_3 vm) (sem (.swap 3) vm.stack) :=
  refines_of_pure16

theorem refines_swap_4 : ∀ vm : Vm, 16 ≤ vm.stack.length →
    Refines (stackRun Generated.ops_swap_4 vm) (sem (.swap 4) vm.stack) :=
  refines_of_pure16

theorem refines_swap_5 : ∀ vm : Vm, 16 ≤ vm.stack.length →
    Refines (stackRun Generated.ops_swap_5 vm) (sem (.swap 5) vm.stack) :=
  refines_of_pure16

theorem refines_swap_6 : ∀ vm : Vm, 16 ≤ vm.stack.length →
    Refines (stackRun Generated.ops_swap_6 vm) (sem (.swap 6) vm.stack) :=
  refines_of_pure16

theorem refines_swap_7 : ∀ vm : Vm, 16 ≤ vm.stack.length →
    Refines (stackRun Generated.ops_swap_7 vm) (sem (.swap 7) vm.stack) :=
  refines_of_pure16

theorem refines_swap_8 : ∀ vm : Vm, 16 ≤ vm.stack.length →
    Refines (stackRun Generated.ops_swap_8 vm) (sem (.swap 8) vm.stack) :=
  refines_of_pure16

theorem refines_swap_9 : ∀ vm : Vm, 16 ≤ vm.stack.length →
    Refines (stackRun Generated.ops_swap_9 vm) (sem (.swap 9) vm.stack) :=
  refines_of_pure16

theorem refines_swap_10 : ∀ vm : Vm, 16 ≤ vm.stack.length →
    Refines (stackRun Generated.ops_swap_10 vm) (sem (.swap 10) vm.stack) :=
  refines_of_pure16

theorem refines_swap_11 : ∀ vm : Vm, 16 ≤ vm.stack.length →
    Refines (stackRun Generated.ops_swap_11 vm) (sem (.swap 11) vm.stack) :=
  refines_of_pure16

theorem refines_swap_12 : ∀ vm : Vm, 16 ≤ vm.stack.length →
    Refines (stackRun Generated.ops_swap_12 vm) (sem (.swap 12) vm.stack) :=
  refines_of_pure16

theorem refines_swap_13 : ∀ vm : Vm, 16 ≤ vm.stack.length →
    Refines (stackRun Generated.ops_swap_13 vm) (sem (.swap 13) vm.stack) :=
  refines_of_pure16

theorem refines_swap_14 : ∀ vm : Vm, 16 ≤ vm.stack.length →
    Refines (stackRun Generated.ops_swap_14 vm) (sem (.swap 14) vm.stack) :=
  refines_of_pure16

theorem refines_swap_15 : ∀ vm : Vm, 16 ≤ vm.stack.length →
    Refines (stackRun Generated.ops_swap_15 vm) (sem (.swap 15) vm.stack) :=
  refines_of_pure16

theorem refines_swapdw : ∀ vm : Vm, 16 ≤ vm.stack.length →
    Refines (stackRun Generated.ops_swapdw vm) (sem .swapdw vm.stack) :=
  refines_of_pure16

theorem refines_swapw : ∀ vm : Vm, 16 ≤ vm.stack.length →
    Refines (stackRun Generated.ops_swapw vm) (sem (.swapw 1) vm.stack) :=
  refines_of_pure16

theorem refines_swapw_1 : ∀ vm : Vm, 16 ≤ vm.stack.length →
    Refines (stackRun Generated.ops_swapw_1 vm) (sem (.swapw 1) vm.stack) :=
  refines_of_pure16

theorem refines_swapw_2 : ∀ vm : Vm, 16 ≤ vm.stack.length →
    Refines (stackRun Generated.ops_swapw_2 vm) (sem (.swapw 2) vm.stack) :=
  refines_of_pure16

theorem refines_swapw_3 : ∀ vm : Vm, 16 ≤ vm.stack.length →
    Refines (stackRun Generated.ops_swapw_3 vm) (sem (.swapw 3) vm.stack) :=
  refines_of_pure16

end Miden.C05
