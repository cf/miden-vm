/-
  Completeness of the stack AIR on honest rows, one theorem per operation (see `Props/C03Air.lean`).
  `honest_of` has dealt with the overflow and the general constraints; what is left for an operation is
  `Air.Demands`: the few equations its own constraint group states about the cells it computes.
-/
import Miden.Lemmas.HonestAir
namespace Miden.C03
open Miden.Air Miden.Vm
attribute [local irreducible] finv fpow fpowAux

/-! Operations of which the stack AIR pins only the cells they leave alone. -/

theorem honest_noop (vm vm' : Vm) (hl : 16 ≤ vm.stack.length) (h : vm.step .noop = .ok vm') :
    HonestHolds vm vm' .noop :=
  honest_frame rfl hl h

theorem honest_advpop (vm vm' : Vm) (hl : 16 ≤ vm.stack.length) (h : vm.step .advpop = .ok vm') :
    HonestHolds vm vm' .advpop :=
  honest_frame rfl hl h

theorem honest_advpopw (vm vm' : Vm) (hl : 16 ≤ vm.stack.length) (h : vm.step .advpopw = .ok vm') :
    HonestHolds vm vm' .advpopw :=
  honest_frame rfl hl h

theorem honest_caller (vm vm' : Vm) (hl : 16 ≤ vm.stack.length) (h : vm.step .caller = .ok vm') :
    HonestHolds vm vm' .caller :=
  honest_frame rfl hl h

theorem honest_drop (vm vm' : Vm) (hl : 16 ≤ vm.stack.length) (h : vm.step .drop = .ok vm') :
    HonestHolds vm vm' .drop :=
  honest_frame rfl hl h

theorem honest_hperm (vm vm' : Vm) (hl : 16 ≤ vm.stack.length) (h : vm.step .hperm = .ok vm') :
    HonestHolds vm vm' .hperm :=
  honest_frame rfl hl h

theorem honest_mload (vm vm' : Vm) (hl : 16 ≤ vm.stack.length) (h : vm.step .mload = .ok vm') :
    HonestHolds vm vm' .mload :=
  honest_frame rfl hl h

theorem honest_mloadw (vm vm' : Vm) (hl : 16 ≤ vm.stack.length) (h : vm.step .mloadw = .ok vm') :
    HonestHolds vm vm' .mloadw :=
  honest_frame rfl hl h

theorem honest_mpverify (vm vm' : Vm) (hl : 16 ≤ vm.stack.length) (h : vm.step .mpverify = .ok vm') :
    HonestHolds vm vm' .mpverify :=
  honest_frame rfl hl h

theorem honest_mrupdate (vm vm' : Vm) (hl : 16 ≤ vm.stack.length) (h : vm.step .mrupdate = .ok vm') :
    HonestHolds vm vm' .mrupdate :=
  honest_frame rfl hl h

theorem honest_mstore (vm vm' : Vm) (hl : 16 ≤ vm.stack.length) (h : vm.step .mstore = .ok vm') :
    HonestHolds vm vm' .mstore :=
  honest_frame rfl hl h

theorem honest_mstorew (vm vm' : Vm) (hl : 16 ≤ vm.stack.length) (h : vm.step .mstorew = .ok vm') :
    HonestHolds vm vm' .mstorew :=
  honest_frame rfl hl h

theorem honest_u32and (vm vm' : Vm) (hl : 16 ≤ vm.stack.length) (h : vm.step .u32and = .ok vm') :
    HonestHolds vm vm' .u32and :=
  honest_frame rfl hl h

theorem honest_u32xor (vm vm' : Vm) (hl : 16 ≤ vm.stack.length) (h : vm.step .u32xor = .ok vm') :
    HonestHolds vm vm' .u32xor :=
  honest_frame rfl hl h

theorem honest_push (v : Nat) (vm vm' : Vm) (hl : 16 ≤ vm.stack.length) (h : vm.step (.push v) = .ok vm') :
    HonestHolds vm vm' (.push v) :=
  honest_frame rfl hl h

/-! Operations whose result is a polynomial of their operands, or a copy of a cell. -/

theorem honest_add (vm vm' : Vm) (hl : 16 ≤ vm.stack.length) (h : vm.step .add = .ok vm') :
    HonestHolds vm vm' .add := by
  honest_run
  ring

theorem honest_mul (vm vm' : Vm) (hl : 16 ≤ vm.stack.length) (h : vm.step .mul = .ok vm') :
    HonestHolds vm vm' .mul := by
  honest_run
  ring

theorem honest_neg (vm vm' : Vm) (hl : 16 ≤ vm.stack.length) (h : vm.step .neg = .ok vm') :
    HonestHolds vm vm' .neg := by
  honest_run

theorem honest_incr (vm vm' : Vm) (hl : 16 ≤ vm.stack.length) (h : vm.step .incr = .ok vm') :
    HonestHolds vm vm' .incr := by
  honest_run

theorem honest_fmpadd (vm vm' : Vm) (hl : 16 ≤ vm.stack.length) (h : vm.step .fmpadd = .ok vm') :
    HonestHolds vm vm' .fmpadd := by
  honest_run
  ring

theorem honest_fmpupdate (vm vm' : Vm) (hl : 16 ≤ vm.stack.length) (h : vm.step .fmpupdate = .ok vm') :
    HonestHolds vm vm' .fmpupdate := by
  honest_run

theorem honest_clk (vm vm' : Vm) (hl : 16 ≤ vm.stack.length) (h : vm.step .clk = .ok vm') :
    HonestHolds vm vm' .clk := by
  honest_run

theorem honest_sdepth (vm vm' : Vm) (hl : 16 ≤ vm.stack.length) (h : vm.step .sdepth = .ok vm') :
    HonestHolds vm vm' .sdepth := by
  honest_run

theorem honest_pad (vm vm' : Vm) (hl : 16 ≤ vm.stack.length) (h : vm.step .pad = .ok vm') :
    HonestHolds vm vm' .pad := by
  honest_run

theorem honest_swap (vm vm' : Vm) (hl : 16 ≤ vm.stack.length) (h : vm.step .swap = .ok vm') :
    HonestHolds vm vm' .swap := by
  honest_run

theorem honest_swapw (vm vm' : Vm) (hl : 16 ≤ vm.stack.length) (h : vm.step .swapw = .ok vm') :
    HonestHolds vm vm' .swapw := by
  honest_run

theorem honest_swapw2 (vm vm' : Vm) (hl : 16 ≤ vm.stack.length) (h : vm.step .swapw2 = .ok vm') :
    HonestHolds vm vm' .swapw2 := by
  honest_run

theorem honest_swapw3 (vm vm' : Vm) (hl : 16 ≤ vm.stack.length) (h : vm.step .swapw3 = .ok vm') :
    HonestHolds vm vm' .swapw3 := by
  honest_run

theorem honest_swapdw (vm vm' : Vm) (hl : 16 ≤ vm.stack.length) (h : vm.step .swapdw = .ok vm') :
    HonestHolds vm vm' .swapdw := by
  honest_run

theorem honest_ext2mul (vm vm' : Vm) (hl : 16 ≤ vm.stack.length) (h : vm.step .ext2mul = .ok vm') :
    HonestHolds vm vm' .ext2mul := by
  honest_run
  constructor <;> ring

theorem honest_assert (code : Nat) (vm vm' : Vm) (hl : 16 ≤ vm.stack.length)
    (h : vm.step (.assert code) = .ok vm') : HonestHolds vm vm' (.assert code) := by
  honest_run

/-! Operations on binary operands: an operand that passed the check is 0 or 1, and on each of the
    cases the demands are evaluated. -/

theorem binary_of_not_gt {x : Nat} (h : ¬ x > 1) : x = 0 ∨ x = 1 := by omega

/-- AND and OR check their operands alike. -/
theorem honest_and_or {op : Op} (hop : op = .and ∨ op = .or) {vm vm' : Vm} (hl : 16 ≤ vm.stack.length)
    (h : vm.step op = .ok vm') : HonestHolds vm vm' op := by
  rcases hop with rfl | rfl <;> (
    refine honest_of rfl hl h ?_
    have hcore := (step_eq_stepCore vm _).symm.trans h
    simp only [stepCore] at hcore
    split at hcore
    next b a t hs =>
      split at hcore
      · cases hcore
      next hb =>
        split at hcore
        · cases hcore
        next ha =>
          cases hcore
          rcases binary_of_not_gt hb with rfl | rfl <;> rcases binary_of_not_gt ha with rfl | rfl <;>
            demands_simp
    · cases hcore)

theorem honest_and (vm vm' : Vm) (hl : 16 ≤ vm.stack.length) (h : vm.step .and = .ok vm') :
    HonestHolds vm vm' .and :=
  honest_and_or (.inl rfl) hl h

theorem honest_or (vm vm' : Vm) (hl : 16 ≤ vm.stack.length) (h : vm.step .or = .ok vm') :
    HonestHolds vm vm' .or :=
  honest_and_or (.inr rfl) hl h

theorem honest_not (vm vm' : Vm) (hl : 16 ≤ vm.stack.length) (h : vm.step .not = .ok vm') :
    HonestHolds vm vm' .not := by
  refine honest_of rfl hl h ?_
  have hcore := (step_eq_stepCore vm _).symm.trans h
  simp only [stepCore] at hcore
  split at hcore
  next a t hs =>
    split at hcore
    · cases hcore
    next ha =>
      cases hcore
      rcases binary_of_not_gt ha with rfl | rfl <;>
        demands_simp
  · cases hcore

theorem honest_cswap (vm vm' : Vm) (hl : 16 ≤ vm.stack.length) (h : vm.step .cswap = .ok vm') :
    HonestHolds vm vm' .cswap := by
  honest_run

theorem honest_cswapw (vm vm' : Vm) (hl : 16 ≤ vm.stack.length) (h : vm.step .cswapw = .ok vm') :
    HonestHolds vm vm' .cswapw := by
  honest_run

/-! INV, EQZ, EQ: the result, resp. the helper register, is a field inverse, which the model computes
    by Fermat exponentiation (`cast_finv`); the operands have to be canonical for `≠ 0` to carry over
    to the field. -/

theorem honest_inv (vm vm' : Vm) (hl : 16 ≤ vm.stack.length) (hc : Canon vm)
    (h : vm.step .inv = .ok vm') : HonestHolds vm vm' .inv := by
  refine honest_of rfl hl h ?_
  have hcore := (step_eq_stepCore vm _).symm.trans h
  simp only [stepCore] at hcore
  split at hcore
  next a t hs =>
    split at hcore
    · cases hcore
    next ha =>
      cases hcore
      have hne : (a : FP) ≠ 0 := cast_ne_zero a (hc a (by simp [hs])) ha
      demands_simp
      rw [cast_finv a hne, mul_inv_cancel₀ hne]
  · cases hcore

theorem honest_eqz (vm vm' : Vm) (hl : 16 ≤ vm.stack.length) (hc : Canon vm)
    (h : vm.step .eqz = .ok vm') : HonestHolds vm vm' .eqz := by
  refine honest_of rfl hl h ?_
  have hcore := (step_eq_stepCore vm _).symm.trans h
  simp only [stepCore] at hcore
  split at hcore
  next a t hs =>
    cases hcore
    intros
    by_cases ha : a = 0
    · subst ha
      demands_simp
    · have hne : (a : FP) ≠ 0 := cast_ne_zero a (hc a (by simp [hs])) ha
      demands_simp
      rw [cast_finv a hne, mul_inv_cancel₀ hne, sub_self]
  · cases hcore

theorem honest_eq (vm vm' : Vm) (hl : 16 ≤ vm.stack.length) (hc : Canon vm)
    (h : vm.step .eq = .ok vm') : HonestHolds vm vm' .eq := by
  refine honest_of rfl hl h ?_
  have hcore := (step_eq_stepCore vm _).symm.trans h
  simp only [stepCore] at hcore
  split at hcore
  next b a t hs =>
    cases hcore
    intros
    by_cases hab : a = b
    · subst hab
      demands_simp
    · have hne : ((b : FP) - (a : FP)) ≠ 0 := fun hz =>
        hab (cast_inj b a (hc b (by simp [hs])) (hc a (by simp [hs])) (sub_eq_zero.mp hz)).symm
      demands_simp
      rw [if_neg (Ne.symm hab), cast_finv _ (by rwa [cast_fsub]), cast_fsub, mul_inv_cancel₀ hne, sub_self]
  · cases hcore

/-- EXPACC: the shifted-out bit and the rest of the exponent recombine. -/
theorem honest_expacc (vm vm' : Vm) (hl : 16 ≤ vm.stack.length)
    (h : vm.step .expacc = .ok vm') : HonestHolds vm vm' .expacc := by
  refine honest_of rfl hl h ?_
  have hcore := (step_eq_stepCore vm _).symm.trans h
  simp only [stepCore] at hcore
  split at hcore
  next x e acc b t hs =>
    cases hcore
    have key : (b : FP) = ((b / 2 : Nat) : FP) * 2 + ((b % 2 : Nat) : FP) := by
      exact_mod_cast congrArg (Nat.cast : ℕ → FP) (Nat.div_add_mod' b 2).symm
    rcases Nat.mod_two_eq_zero_or_one b with hm | hm <;> rw [hm] at key <;> demands_simp
  · cases hcore

/-! DUPn, MOVUPn, MOVDNn: the AIR demands one equation between a cell of the next row and a cell of the
    current one (`dup_top`, `movup_top`, `movdn_nth`).  The cells MOVUPn / MOVDNn shift along are a
    matter of the general constraints (`stepCore_tied`). -/

theorem honest_cell (i j : Nat) (op : Op) {vm vm' : Vm} (hl : 16 ≤ vm.stack.length)
    (h : vm.step op = .ok vm')
    (hcell : ∀ {r : Vm}, vm.stepCore op = .ok r → r.stack.getD i 0 = vm.stack.getD j 0)
    (hd : ∀ cur nxt : Row FP, nxt.st i = cur.st j → Demands cur nxt op := by exact fun _ _ e => { manip := e })
    (hc : op.isControl = false := by rfl) (hi : i < 16 := by decide) (hj : j < 16 := by decide) :
    HonestHolds vm vm' op := by
  refine honest_of hc hl h (hd _ _ ?_)
  rw [rowWith_st hi, rowWith_st hj]
  exact congrArg Nat.cast (hcell ((step_eq_stepCore vm _).symm.trans h))

theorem honest_dup0 (vm vm' : Vm) (hl : 16 ≤ vm.stack.length) (h : vm.step .dup0 = .ok vm') :
    HonestHolds vm vm' .dup0 :=
  honest_cell 0 0 .dup0 hl h dup_top

theorem honest_dup1 (vm vm' : Vm) (hl : 16 ≤ vm.stack.length) (h : vm.step .dup1 = .ok vm') :
    HonestHolds vm vm' .dup1 :=
  honest_cell 0 1 .dup1 hl h dup_top

theorem honest_dup2 (vm vm' : Vm) (hl : 16 ≤ vm.stack.length) (h : vm.step .dup2 = .ok vm') :
    HonestHolds vm vm' .dup2 :=
  honest_cell 0 2 .dup2 hl h dup_top

theorem honest_dup3 (vm vm' : Vm) (hl : 16 ≤ vm.stack.length) (h : vm.step .dup3 = .ok vm') :
    HonestHolds vm vm' .dup3 :=
  honest_cell 0 3 .dup3 hl h dup_top

theorem honest_dup4 (vm vm' : Vm) (hl : 16 ≤ vm.stack.length) (h : vm.step .dup4 = .ok vm') :
    HonestHolds vm vm' .dup4 :=
  honest_cell 0 4 .dup4 hl h dup_top

theorem honest_dup5 (vm vm' : Vm) (hl : 16 ≤ vm.stack.length) (h : vm.step .dup5 = .ok vm') :
    HonestHolds vm vm' .dup5 :=
  honest_cell 0 5 .dup5 hl h dup_top

theorem honest_dup6 (vm vm' : Vm) (hl : 16 ≤ vm.stack.length) (h : vm.step .dup6 = .ok vm') :
    HonestHolds vm vm' .dup6 :=
  honest_cell 0 6 .dup6 hl h dup_top

theorem honest_dup7 (vm vm' : Vm) (hl : 16 ≤ vm.stack.length) (h : vm.step .dup7 = .ok vm') :
    HonestHolds vm vm' .dup7 :=
  honest_cell 0 7 .dup7 hl h dup_top

theorem honest_dup9 (vm vm' : Vm) (hl : 16 ≤ vm.stack.length) (h : vm.step .dup9 = .ok vm') :
    HonestHolds vm vm' .dup9 :=
  honest_cell 0 9 .dup9 hl h dup_top

theorem honest_dup11 (vm vm' : Vm) (hl : 16 ≤ vm.stack.length) (h : vm.step .dup11 = .ok vm') :
    HonestHolds vm vm' .dup11 :=
  honest_cell 0 11 .dup11 hl h dup_top

theorem honest_dup13 (vm vm' : Vm) (hl : 16 ≤ vm.stack.length) (h : vm.step .dup13 = .ok vm') :
    HonestHolds vm vm' .dup13 :=
  honest_cell 0 13 .dup13 hl h dup_top

theorem honest_dup15 (vm vm' : Vm) (hl : 16 ≤ vm.stack.length) (h : vm.step .dup15 = .ok vm') :
    HonestHolds vm vm' .dup15 :=
  honest_cell 0 15 .dup15 hl h dup_top

theorem honest_movup2 (vm vm' : Vm) (hl : 16 ≤ vm.stack.length) (h : vm.step .movup2 = .ok vm') :
    HonestHolds vm vm' .movup2 :=
  honest_cell 0 2 .movup2 hl h movup_top

theorem honest_movup3 (vm vm' : Vm) (hl : 16 ≤ vm.stack.length) (h : vm.step .movup3 = .ok vm') :
    HonestHolds vm vm' .movup3 :=
  honest_cell 0 3 .movup3 hl h movup_top

theorem honest_movup4 (vm vm' : Vm) (hl : 16 ≤ vm.stack.length) (h : vm.step .movup4 = .ok vm') :
    HonestHolds vm vm' .movup4 :=
  honest_cell 0 4 .movup4 hl h movup_top

theorem honest_movup5 (vm vm' : Vm) (hl : 16 ≤ vm.stack.length) (h : vm.step .movup5 = .ok vm') :
    HonestHolds vm vm' .movup5 :=
  honest_cell 0 5 .movup5 hl h movup_top

theorem honest_movup6 (vm vm' : Vm) (hl : 16 ≤ vm.stack.length) (h : vm.step .movup6 = .ok vm') :
    HonestHolds vm vm' .movup6 :=
  honest_cell 0 6 .movup6 hl h movup_top

theorem honest_movup7 (vm vm' : Vm) (hl : 16 ≤ vm.stack.length) (h : vm.step .movup7 = .ok vm') :
    HonestHolds vm vm' .movup7 :=
  honest_cell 0 7 .movup7 hl h movup_top

theorem honest_movup8 (vm vm' : Vm) (hl : 16 ≤ vm.stack.length) (h : vm.step .movup8 = .ok vm') :
    HonestHolds vm vm' .movup8 :=
  honest_cell 0 8 .movup8 hl h movup_top

theorem honest_movdn2 (vm vm' : Vm) (hl : 16 ≤ vm.stack.length) (h : vm.step .movdn2 = .ok vm') :
    HonestHolds vm vm' .movdn2 :=
  honest_cell 2 0 .movdn2 hl h movdn_nth fun _ _ e => { manip := e.symm }

theorem honest_movdn3 (vm vm' : Vm) (hl : 16 ≤ vm.stack.length) (h : vm.step .movdn3 = .ok vm') :
    HonestHolds vm vm' .movdn3 :=
  honest_cell 3 0 .movdn3 hl h movdn_nth fun _ _ e => { manip := e.symm }

theorem honest_movdn4 (vm vm' : Vm) (hl : 16 ≤ vm.stack.length) (h : vm.step .movdn4 = .ok vm') :
    HonestHolds vm vm' .movdn4 :=
  honest_cell 4 0 .movdn4 hl h movdn_nth fun _ _ e => { manip := e.symm }

theorem honest_movdn5 (vm vm' : Vm) (hl : 16 ≤ vm.stack.length) (h : vm.step .movdn5 = .ok vm') :
    HonestHolds vm vm' .movdn5 :=
  honest_cell 5 0 .movdn5 hl h movdn_nth fun _ _ e => { manip := e.symm }

theorem honest_movdn6 (vm vm' : Vm) (hl : 16 ≤ vm.stack.length) (h : vm.step .movdn6 = .ok vm') :
    HonestHolds vm vm' .movdn6 :=
  honest_cell 6 0 .movdn6 hl h movdn_nth fun _ _ e => { manip := e.symm }

theorem honest_movdn7 (vm vm' : Vm) (hl : 16 ≤ vm.stack.length) (h : vm.step .movdn7 = .ok vm') :
    HonestHolds vm vm' .movdn7 :=
  honest_cell 7 0 .movdn7 hl h movdn_nth fun _ _ e => { manip := e.symm }

theorem honest_movdn8 (vm vm' : Vm) (hl : 16 ≤ vm.stack.length) (h : vm.step .movdn8 = .ok vm') :
    HonestHolds vm vm' .movdn8 :=
  honest_cell 8 0 .movdn8 hl h movdn_nth fun _ _ e => { manip := e.symm }

/-! MSTREAM, PIPE: the AIR demands the pointer increment, and the address the model checked is the
    pointer (`validAddr_ok`). -/

theorem honest_mstream (vm vm' : Vm) (hl : 16 ≤ vm.stack.length) (h : vm.step .mstream = .ok vm') :
    HonestHolds vm vm' .mstream := by
  have hcore := (step_eq_stepCore vm _).symm.trans h
  simp only [stepCore] at hcore
  (repeat' (split at hcore)) <;> cases hcore
  obtain rfl := validAddr_ok ‹validAddr _ = Except.ok _›
  refine honest_of rfl hl h ?_
  demands_simp

theorem honest_pipe (vm vm' : Vm) (hl : 16 ≤ vm.stack.length) (h : vm.step .pipe = .ok vm') :
    HonestHolds vm vm' .pipe := by
  have hcore := (step_eq_stepCore vm _).symm.trans h
  simp only [stepCore] at hcore
  (repeat' (split at hcore)) <;> cases hcore
  obtain rfl := validAddr_ok ‹validAddr _ = Except.ok _›
  refine honest_of rfl hl h ?_
  demands_simp

end Miden.C03
