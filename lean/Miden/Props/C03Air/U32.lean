/-
  Completeness of the stack AIR on honest rows: the u32 operations.  Their helper registers carry the
  16-bit limbs of the result (`limbs16`), whose aggregations `vLo`, `vHi`, `v48`, `v64` the constraints
  compare with operands and results.  The limb identities are proved over the naturals (`omega`) and
  cast into `ZMod P`.  The arithmetic operations need u32 operands: on other operands they execute,
  but the row is not provable (known finding of C03).
-/
import Miden.Lemmas.HonestAir
import Miden.Lemmas.U32Arith
namespace Miden.C03
open Miden.Air Miden.Vm
attribute [local irreducible] finv fpow fpowAux

theorem divmod_cast (v n : Nat) : (n : FP) * ((v / n : Nat) : FP) + ((v % n : Nat) : FP) = (v : FP) := by
  exact_mod_cast congrArg (Nat.cast : ℕ → FP) (Nat.div_add_mod v n)

theorem limb_eq (v : Nat) : (65536 : FP) * ((v / 65536 : Nat) : FP) + ((v % 65536 : Nat) : FP) = (v : FP) := by
  exact_mod_cast divmod_cast v 65536

theorem split_cast (v : Nat) :
    (4294967296 : FP) * ((splitHi v : Nat) : FP) + ((splitLo v : Nat) : FP) = (v : FP) := by
  exact_mod_cast divmod_cast v two32

/-- The halves of a canonical element: the high half is below `2^32 - 1`, or the low half is zero. -/
theorem split_valid {v : Nat} (h : v < P) : splitHi v < 4294967295 ∨ splitLo v = 0 := by
  unfold P at h
  simp only [splitHi, splitLo, two32]
  omega

section
variable (vm : Vm) (k lo hi m : Nat) (b1 h0 : FP)

theorem vLo_limbs : vLo (rowWith vm k (limbs16 lo hi m) b1 h0) = (lo : FP) := by
  simp [vLo_eq, rowWith_hp, limbs16, limb_eq]

theorem vHi_limbs : vHi (rowWith vm k (limbs16 lo hi m) b1 h0) = (hi : FP) := by
  simp [vHi_eq, rowWith_hp, limbs16, limb_eq]

theorem v48_limbs : v48 (rowWith vm k (limbs16 lo hi m) b1 h0)
    = 4294967296 * ((hi % 65536 : Nat) : FP) + (lo : FP) := by
  simp [v48_eq, rowWith_hp, limbs16, limb_eq]

theorem v64_limbs : v64 (rowWith vm k (limbs16 lo hi m) b1 h0) = 4294967296 * (hi : FP) + (lo : FP) := by
  simp [v64_eq, rowWith_hp, limbs16, limb_eq]

theorem hp4_limbs : (rowWith vm k (limbs16 lo hi m) b1 h0).hp 4 = (m : FP) := by
  simp [rowWith_hp, limbs16]

end

theorem u32add_key (x0 x1 : Nat) (h0 : x0 < 4294967296) (h1 : x1 < 4294967296) :
    (x0 : FP) + (x1 : FP) = 4294967296 * ((splitHi (fadd x1 x0) % 65536 : Nat) : FP) + ((splitLo (fadd x1 x0) : Nat) : FP) := by
  have hn : x0 + x1 = 4294967296 * (splitHi (fadd x1 x0) % 65536) + splitLo (fadd x1 x0) := by
    simp only [splitHi, splitLo, fadd, two32, P]
    omega
  have := congrArg (Nat.cast : ℕ → FP) hn
  push_cast at this
  exact this

theorem honest_u32add (vm vm' : Vm) (hl : 16 ≤ vm.stack.length)
    (hu : vm.stack.getD 0 0 < two32 ∧ vm.stack.getD 1 0 < two32)
    (h : vm.step .u32add = .ok vm') : HonestHolds vm vm' .u32add := by
  refine honest_of rfl hl h ?_
  have hcore := (step_eq_stepCore vm _).symm.trans h
  simp only [stepCore] at hcore
  split at hcore <;> cases hcore
  next b a t hs =>
    rw [hs] at hu
    have key := u32add_key b a hu.1 hu.2
    demands_simp
    simp [vLo_limbs, vHi_limbs, v48_limbs]

theorem u32add3_key (x0 x1 x2 : Nat) (h0 : x0 < 4294967296) (h1 : x1 < 4294967296) (h2 : x2 < 4294967296) :
    (x0 : FP) + (x1 : FP) + (x2 : FP) =
      4294967296 * ((splitHi ((x2 + x1 + x0) % two64 % P) % 65536 : Nat) : FP)
        + ((splitLo ((x2 + x1 + x0) % two64 % P) : Nat) : FP) := by
  have hn : x0 + x1 + x2 = 4294967296 * (splitHi ((x2 + x1 + x0) % two64 % P) % 65536)
      + splitLo ((x2 + x1 + x0) % two64 % P) := by
    simp only [splitHi, splitLo, two32, two64, P]
    omega
  have := congrArg (Nat.cast : ℕ → FP) hn
  push_cast at this
  exact this

theorem honest_u32add3 (vm vm' : Vm) (hl : 16 ≤ vm.stack.length)
    (hu : vm.stack.getD 0 0 < two32 ∧ vm.stack.getD 1 0 < two32 ∧ vm.stack.getD 2 0 < two32)
    (h : vm.step .u32add3 = .ok vm') : HonestHolds vm vm' .u32add3 := by
  refine honest_of rfl hl h ?_
  have hcore := (step_eq_stepCore vm _).symm.trans h
  simp only [stepCore] at hcore
  split at hcore <;> cases hcore
  next c b a t hs =>
    rw [hs] at hu
    have key := u32add3_key c b a hu.1 hu.2.1 hu.2.2
    demands_simp
    simp [vLo_limbs, vHi_limbs, v48_limbs]

theorem honest_u32assert2 (code : Nat) (vm vm' : Vm) (hl : 16 ≤ vm.stack.length)
    (h : vm.step (.u32assert2 code) = .ok vm') : HonestHolds vm vm' (.u32assert2 code) := by
  honest_run
  simp [vLo_limbs, vHi_limbs]

theorem honest_u32div (vm vm' : Vm) (hl : 16 ≤ vm.stack.length)
    (h : vm.step .u32div = .ok vm') : HonestHolds vm vm' .u32div := by
  refine honest_of rfl hl h ?_
  have hcore := (step_eq_stepCore vm _).symm.trans h
  simp only [stepCore] at hcore
  split at hcore
  next b a t hs =>
    split at hcore
    · cases hcore
    next hb0 =>
      cases hcore
      have key := divmod_cast a b
      have key2 : ((a - a / b : Nat) : FP) = (a : FP) - ((a / b : Nat) : FP) :=
        Nat.cast_sub (Nat.div_le_self a b)
      have key3 : ((b - a % b - 1 : Nat) : FP) + 1 = (b : FP) - ((a % b : Nat) : FP) := by
        have hr : a % b < b := Nat.mod_lt a (Nat.pos_of_ne_zero hb0)
        have hn : (b - a % b - 1) + 1 + a % b = b := by omega
        have := congrArg (Nat.cast : ℕ → FP) hn
        push_cast at this
        linear_combination this
      demands_simp
      simp [vLo_limbs, vHi_limbs, key2, key3]
  · cases hcore

/-- The validity helper `m` is the inverse of `2^32 - 1 - hi` whenever `hi` is not `2^32 - 1`. -/
theorem validity_ok (hi : Nat) (h : hi < 4294967295) :
    ((validityHelper hi : Nat) : FP) * (4294967295 - (hi : FP)) = 1 := by
  unfold validityHelper
  have hsub : ((fsub u32max hi : Nat) : FP) = 4294967295 - (hi : FP) := by
    rw [cast_fsub]
    unfold u32max
    norm_num
  have hne : ((fsub u32max hi : Nat) : FP) ≠ 0 := by
    rw [hsub]
    have h2 : (4294967295 - (hi : FP)) = ((4294967295 - hi : Nat) : FP) := by
      rw [Nat.cast_sub (Nat.le_of_lt h)]
      norm_num
    rw [h2]
    exact cast_ne_zero _ (by unfold P; omega) (by omega)
  rw [cast_finv _ hne, hsub]
  rw [hsub] at hne
  exact inv_mul_cancel₀ hne

/-- The element-validity constraint of U32SPLIT, U32MUL, U32MADD on honest limbs: either the high
    half is below `2^32 - 1` and `m` is the inverse the constraint asks for, or the low half is zero. -/
theorem validity_holds {vm : Vm} {k lo hi : Nat} {b1 h0 : FP} (hv : hi < 4294967295 ∨ lo = 0) :
    (1 - (rowWith vm k (limbs16 lo hi (validityHelper hi)) b1 h0).hp 4 *
        ((two32 : FP) - 1 - vHi (rowWith vm k (limbs16 lo hi (validityHelper hi)) b1 h0))) *
      vLo (rowWith vm k (limbs16 lo hi (validityHelper hi)) b1 h0) = 0 := by
  simp only [hp4_limbs, vHi_limbs, vLo_limbs]
  rcases hv with hv | rfl
  · have := validity_ok hi hv
    have e : ((two32 : Nat) : FP) - 1 = 4294967295 := by
      unfold two32
      norm_num
    rw [e, this, sub_self, zero_mul]
  · simp

theorem honest_u32mul (vm vm' : Vm) (hl : 16 ≤ vm.stack.length)
    (hu : vm.stack.getD 0 0 < two32 ∧ vm.stack.getD 1 0 < two32)
    (h : vm.step .u32mul = .ok vm') : HonestHolds vm vm' .u32mul := by
  refine honest_of rfl hl h ?_
  have hcore := (step_eq_stepCore vm _).symm.trans h
  simp only [stepCore] at hcore
  split at hcore <;> cases hcore
  next b a t hs =>
    rw [hs] at hu
    have hp : a * b < P := u32_madd_lt (c := 0) hu.2 hu.1 (by decide)
    intros
    refine { u32 := ?_ }
    simp only [hs, helpersOf, List.getD_cons_zero, List.getD_cons_succ, mod_P_of_lt hp]
    refine ⟨validity_holds (split_valid hp), ?_⟩
    simp [rowWith_st, vLo_limbs, vHi_limbs, v64_limbs, setStack, hs, split_cast]
    ring

theorem honest_u32madd (vm vm' : Vm) (hl : 16 ≤ vm.stack.length)
    (hu : vm.stack.getD 0 0 < two32 ∧ vm.stack.getD 1 0 < two32 ∧ vm.stack.getD 2 0 < two32)
    (h : vm.step .u32madd = .ok vm') : HonestHolds vm vm' .u32madd := by
  refine honest_of rfl hl h ?_
  have hcore := (step_eq_stepCore vm _).symm.trans h
  simp only [stepCore] at hcore
  split at hcore <;> cases hcore
  next b a c t hs =>
    rw [hs] at hu
    have hp : a * b + c < P := u32_madd_lt hu.2.1 hu.1 hu.2.2
    intros
    refine { u32 := ?_ }
    simp only [hs, helpersOf, List.getD_cons_zero, List.getD_cons_succ, mod_P_of_lt hp]
    refine ⟨validity_holds (split_valid hp), ?_⟩
    simp [rowWith_st, vLo_limbs, vHi_limbs, v64_limbs, setStack, getElem?_pad16, hs, split_cast]
    ring

theorem honest_u32split (vm vm' : Vm) (hl : 16 ≤ vm.stack.length) (hc : Canon vm)
    (h : vm.step .u32split = .ok vm') : HonestHolds vm vm' .u32split := by
  refine honest_of rfl hl h ?_
  have hcore := (step_eq_stepCore vm _).symm.trans h
  simp only [stepCore] at hcore
  split at hcore <;> cases hcore
  next a t hs =>
    intros
    refine { u32 := ?_ }
    simp only [hs]
    refine ⟨validity_holds (split_valid (hc a (by simp [hs]))), ?_⟩
    simp [rowWith_st, helpersOf, vLo_limbs, vHi_limbs, v64_limbs, setStack, hs, split_cast]

/-- U32SUB: difference and borrow bit, in the terms of the model (`a - b` on the stack `b :: a :: _`). -/
theorem u32sub_key (b a : Nat) (hb : b < two32) (ha : a < two32) :
    (a : FP) + (two32 : FP) * (((a + two64 - b) % two64 / 2 ^ 63 : Nat) : FP)
      = (b : FP) + (((a + two64 - b) % two64 % two32 : Nat) : FP)
    ∧ ((a + two64 - b) % two64 / 2 ^ 63 = 0 ∨ (a + two64 - b) % two64 / 2 ^ 63 = 1) := by
  unfold two32 at hb ha
  have hn : a + two32 * ((a + two64 - b) % two64 / 2 ^ 63) = b + (a + two64 - b) % two64 % two32 := by
    simp only [two32, two64]
    omega
  refine ⟨?_, by simp only [two64]; omega⟩
  have := congrArg (Nat.cast : ℕ → FP) hn
  push_cast at this
  exact this

theorem honest_u32sub (vm vm' : Vm) (hl : 16 ≤ vm.stack.length)
    (hu : vm.stack.getD 0 0 < two32 ∧ vm.stack.getD 1 0 < two32)
    (h : vm.step .u32sub = .ok vm') : HonestHolds vm vm' .u32sub := by
  refine honest_of rfl hl h ?_
  have hcore := (step_eq_stepCore vm _).symm.trans h
  simp only [stepCore] at hcore
  split at hcore <;> cases hcore
  next b a t hs =>
    rw [hs] at hu
    obtain ⟨key, hbin⟩ := u32sub_key b a hu.1 hu.2
    intros
    simp only [demands_iff, systemD, fieldD, manipD, u32D, ioD, topD, true_and, and_true, helpersOf, hs,
      List.getD_cons_zero, List.getD_cons_succ]
    generalize (a + two64 - b) % two64 / 2 ^ 63 = bw at key hbin ⊢
    generalize (a + two64 - b) % two64 % two32 = lo at key ⊢
    refine ⟨?_, ?_, ?_⟩
    · simp only [rowWith_st, vLo_limbs, setStack, List.getD_cons_zero, List.getD_cons_succ, Nat.one_lt_ofNat]
    · simp only [rowWith_st, setStack, hs, List.getD_cons_zero, List.getD_cons_succ, Nat.one_lt_ofNat,
        Nat.ofNat_pos]
      linear_combination key
    · rcases hbin with rfl | rfl <;>
        simp only [rowWith_st, setStack, List.getD_cons_zero, Nat.ofNat_pos, Nat.cast_zero, Nat.cast_one,
          mul_zero, mul_one]

end Miden.C03
