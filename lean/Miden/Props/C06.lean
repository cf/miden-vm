/-
  C06 — control flow follows the documented semantics (MAST level: `if` = SPLIT, `while` = LOOP).
  `repeat.n` and `exec` do not exist at MAST level (the assembler unrolls / inlines them); their
  equivalence with textual copies is checked on the real assembler by the correspondence run.
-/
import Miden.Lemmas.ExecInv
namespace Miden.C06
open Miden.Vm

/-- A non-binary condition at an `if` never takes either branch: execution fails. -/
theorem if_nonbinary_fails (env : Env) (fuel : Nat) (t f : Block) (vm : Vm)
    (h0 : vm.peek ≠ 0) (h1 : vm.peek ≠ 1) : ∀ vm', exec env fuel (.split t f) vm ≠ .ok vm' := by
  intro vm' h
  obtain ⟨n, rfl⟩ := exec_succ h
  obtain ⟨_, _, _, hc, _⟩ := exec_split_ok.mp h
  exact hc.elim (fun h => h1 h.1) (fun h => h0 h.1)

/-- `if` executes exactly the branch selected by the popped value. -/
theorem if_selects (env : Env) (n : Nat) (t f : Block) (vm v1 : Vm)
    (hrow : vm.execRow env .drop .split = .ok v1) :
    (vm.peek = 1 → exec env (n + 1) (.split t f) vm =
        (match exec env n t v1 with | .error e => .error e | .ok v => v.execRow env .noop .end)) ∧
    (vm.peek = 0 → exec env (n + 1) (.split t f) vm =
        (match exec env n f v1 with | .error e => .error e | .ok v => v.execRow env .noop .end)) := by
  constructor
  · intro h
    simp [exec, hrow, h]
    cases exec env n t v1 <;> rfl
  · intro h
    simp [exec, hrow, h]
    cases exec env n f v1 <;> rfl

/-- A non-binary condition at loop entry fails. -/
theorem while_entry_nonbinary_fails (env : Env) (fuel : Nat) (body : Block) (vm : Vm)
    (h0 : vm.peek ≠ 0) (h1 : vm.peek ≠ 1) : ∀ vm', exec env fuel (.loop body) vm ≠ .ok vm' := by
  intro vm' h
  obtain ⟨n, rfl⟩ := exec_succ h
  obtain ⟨_, _, hc⟩ := exec_loop_ok.mp h
  exact hc.elim (fun h => h0 h.1) (fun h => h1 h.1)

/-- A non-binary value left on the stack by a loop iteration fails (it neither repeats nor exits). -/
theorem while_exit_nonbinary_fails (env : Env) (fuel : Nat) (body : Block) (vm : Vm)
    (h0 : vm.peek ≠ 0) (h1 : vm.peek ≠ 1) : ∀ vm', loopIter env fuel body vm ≠ .ok vm' := by
  intro vm' h
  cases fuel with
  | zero => exact loopIter_zero h
  | succ n => exact (loopIter_ok.mp h).elim (fun h => h0 h.1) (fun h => h1 h.1)

/-- A loop iterates exactly as long as the popped value is 1: with 0 at entry the body is skipped,
    with 1 the body runs and the decision is taken again on what it leaves on the stack. -/
theorem while_iterates (env : Env) (n : Nat) (body : Block) (vm v1 : Vm)
    (hrow : vm.execRow env .drop .loop = .ok v1) :
    (vm.peek = 0 → exec env (n + 1) (.loop body) vm = v1.execRow env .noop .end) ∧
    (vm.peek = 1 → exec env (n + 1) (.loop body) vm =
        (match exec env n body v1 with | .error e => .error e | .ok v => loopIter env n body v)) ∧
    (∀ v : Vm, v.peek = 0 → loopIter env (n + 1) body v = v.execRow env .drop .end) ∧
    (∀ v : Vm, v.peek = 1 → loopIter env (n + 1) body v =
        (match v.execRow env .drop .repeat with
         | .error e => .error e
         | .ok v' => match exec env n body v' with
           | .error e => .error e
           | .ok v'' => loopIter env n body v'')) := by
  refine ⟨?_, ?_, ?_, ?_⟩
  · intro h
    simp [exec, hrow, h]
  · intro h
    simp [exec, hrow, h]
    cases exec env n body v1 <;> rfl
  · intro v h
    simp [loopIter, h]
  · intro v h
    simp [loopIter, h]
    cases execRow env v Op.drop Op.repeat with
    | error e => rfl
    | ok v' =>
      simp only []
      cases exec env n body v' <;> rfl

/-- JOIN runs its children in order on each other's result; nested structures therefore compose. -/
theorem join_sequences (env : Env) (n : Nat) (a b : Block) (vm v1 : Vm)
    (hrow : vm.execRow env .noop .join = .ok v1) :
    exec env (n + 1) (.join a b) vm =
      (match exec env n a v1 with
       | .error e => .error e
       | .ok v2 => match exec env n b v2 with
         | .error e => .error e
         | .ok v3 => v3.execRow env .noop .end) := by
  simp [exec, hrow]
  cases exec env n a v1 with
  | error e => rfl
  | ok v2 =>
    simp only []
    cases exec env n b v2 <;> rfl

-- Concrete programs: a non-binary `if` condition, a non-binary value left by a loop body, a loop that
-- runs its body once.
example : (exec {} 10 (.split (.span [.pad]) (.span [.incr])) { stack := 2 :: List.replicate 15 0 }).toOption = none := by
  decide
example : ((exec {} 10 (.loop (.span [.pad, .pad, .incr, .incr])) { stack := 1 :: List.replicate 15 0 }).toOption.map (·.clk)) = none := by
  decide
example : ((exec {} 10 (.loop (.span [.pad])) { stack := 1 :: List.replicate 15 0 }).toOption.map (·.clk)) = some 5 := by
  decide

end Miden.C06
