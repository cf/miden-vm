/-
  C11 — assembly is deterministic, history-independent and self-contained (call-set logic).

  Model: `Miden.Model.Asm` — the call-set bookkeeping of `AssemblyContext` / `ProcedureCache`
  abstracted to the call graph; `cbTable` is compared with the keys of `Program::cb_table()` of the
  real assembler on generated module graphs (libraries, re-exports, kernels, local procedures).
-/
import Miden.Lemmas.Asm

namespace Miden.Asm

/-- Every call / syscall / procref target needed by the program body (through any depth of inlined
    procedures) has an entry in the code block table. -/
theorem main_targets_in_table (ps : List (List Ref)) (hwf : wellFormed ps = true)
    (mainLocal : List Nat) (mainRefs : List Ref) (hm : ∀ r ∈ mainRefs, r.idx < ps.length)
    (fuel : Nat) : ∀ x ∈ needed ps fuel mainRefs, x ∈ cbTable ps mainLocal mainRefs := by
  intro x hx
  rw [mem_cbTable]
  exact Or.inl (needed_subset ps hwf fuel mainRefs hm x hx)

/-- The table is closed: every entry is a compiled procedure, and every target needed by the body
    of an entry is again an entry — execution never meets a statically referenced procedure whose
    body is missing. -/
theorem table_closed (ps : List (List Ref)) (hwf : wellFormed ps = true)
    (mainLocal : List Nat) (mainRefs : List Ref) (hm : ∀ r ∈ mainRefs, r.idx < ps.length)
    (hl : ∀ i ∈ mainLocal, i < ps.length) :
    ∀ j ∈ cbTable ps mainLocal mainRefs, j < ps.length ∧
      ∀ fuel, ∀ x ∈ needed ps fuel (ps.getD j []), x ∈ cbTable ps mainLocal mainRefs := by
  have key : Closed ps ps.length (cbTable ps mainLocal mainRefs) := by
    intro j hj
    rcases mem_cbTable.mp hj with h | ⟨i, hi, h⟩
    · obtain ⟨hlt, hsub⟩ := body_closed ps mainRefs ps.length hm (cs_closed ps hwf) j h
      exact ⟨hlt, fun x hxj => mem_cbTable.mpr (Or.inl (hsub x hxj))⟩
    · obtain ⟨hlt, hsub⟩ := cs_closed ps hwf i (hl i hi) j h
      exact ⟨Nat.lt_trans hlt (hl i hi), fun x hxj => mem_cbTable.mpr (Or.inr ⟨i, hi, hsub x hxj⟩)⟩
  intro j hj
  obtain ⟨hlt, hsub⟩ := key j hj
  refine ⟨hlt, fun fuel x hx => hsub x ?_⟩
  rw [cs_eq ps hwf j hlt]
  exact needed_subset ps hwf fuel _
    (fun r hr => Nat.lt_trans ((wellFormed_iff ps).mp hwf j hlt r hr) hlt) x hx

/-- Every cached call set is the one a fresh compilation produces. -/
def Consistent (ps : List (List Ref)) (c : Cache) : Prop :=
  ∀ e ∈ c, e.1 < ps.length ∧ e.2 = cs ps e.1

/-- One look-up-or-compile step: on a consistent cache it returns exactly the call set of a fresh
    compilation and leaves the cache consistent (it only grows by correct entries). -/
theorem ensure_spec (ps : List (List Ref)) (hwf : wellFormed ps = true) (fuel : Nat) :
    ∀ (c : Cache) (i : Nat), Consistent ps c → i < ps.length → i < fuel →
      (ensure ps fuel c i).1 = cs ps i ∧ Consistent ps (ensure ps fuel c i).2 := by
  induction fuel with
  | zero => intro c i _ _ h; omega
  | succ fuel ih =>
    intro c i hc hi hf
    simp only [ensure]
    cases hg : c.get? i with
    | some v => exact ⟨(hc _ (Cache.get?_some c i v hg)).2, hc⟩
    | none =>
      have hlt := (wellFormed_iff ps).mp hwf i hi
      -- every reference is below `i`, so the induction hypothesis answers it with `cs ps r.idx`
      obtain ⟨f1, f2⟩ := foldl_ensureStep (done := compileAll ps) (ps.getD i [])
        (fun c hc r hr => ih c r.idx hc (Nat.lt_trans (hlt r hr) hi)
          (Nat.lt_of_lt_of_le (hlt r hr) (Nat.le_of_lt_succ hf)))
        ([], c) hc
      have hres := f1.trans (cs_eq ps hwf i hi).symm
      refine ⟨hres, ?_⟩
      intro e he
      rcases List.mem_cons.mp he with rfl | he
      · exact ⟨hi, hres⟩
      · exact f2 e he

theorem history_consistent (ps : List (List Ref)) (hwf : wellFormed ps = true) (l : List Nat)
    (hl : ∀ k ∈ l, k < ps.length) (c : Cache) (hc : Consistent ps c) :
    Consistent ps (history ps ps.length c l) := by
  induction l generalizing c with
  | nil => exact hc
  | cons k ks ih =>
    have hk := hl k List.mem_cons_self
    exact ih (fun k' hk' => hl k' (List.mem_cons_of_mem k hk')) _
      (ensure_spec ps hwf ps.length c k hc hk hk).2

/-- History independence: whatever was compiled before on the same cache (any sequence of
    procedures, starting from the empty cache), compiling procedure `i` yields the call set of a
    fresh compilation. -/
theorem history_independent (ps : List (List Ref)) (hwf : wellFormed ps = true)
    (before : List Nat) (hb : ∀ k ∈ before, k < ps.length) (i : Nat) (hi : i < ps.length) :
    (ensure ps ps.length (history ps ps.length [] before) i).1 = (ensure ps ps.length [] i).1 := by
  have hempty : Consistent ps [] := fun e he => absurd he List.not_mem_nil
  rw [(ensure_spec ps hwf ps.length _ i (history_consistent ps hwf before hb [] hempty) hi hi).1,
    (ensure_spec ps hwf ps.length [] i hempty hi hi).1]

example : wellFormed [[], [.call 0], [.exec 1, .call 0]] = true := by decide
example : cbTable [[], [.call 0], [.exec 1, .call 0]] [] [.exec 2] = [0] := by decide
example : cbTable [[], [.call 0], [.call 1]] [] [.call 2] = [0, 1, 2] := by decide
example : (ensure [[], [.call 0], [.call 1]] 3 [] 2).1 = [0, 1] := by decide

end Miden.Asm
